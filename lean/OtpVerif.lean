-- root of the library: every Spec / Model / Gen / Lemmas / Props module
import OtpVerif.Basic
import OtpVerif.Gen.Defaults
import OtpVerif.Gen.JsExports
import OtpVerif.Gen.Registry
import OtpVerif.Gen.Sites
import OtpVerif.Gen.PanicVC
import OtpVerif.Gen.Tables
import OtpVerif.Lemmas.Ascii
import OtpVerif.Lemmas.Base32
import OtpVerif.Lemmas.Base32Decoder
import OtpVerif.Lemmas.Base32Spec
import OtpVerif.Lemmas.DecodeSecret
import OtpVerif.Lemmas.Derive
import OtpVerif.Lemmas.Wasm
import OtpVerif.Lemmas.Numeral
import OtpVerif.Lemmas.Mem
import OtpVerif.Lemmas.Ocra
import OtpVerif.Lemmas.Otp
import OtpVerif.Lemmas.Strings
import OtpVerif.Lemmas.Suite
import OtpVerif.Lemmas.Trim
import OtpVerif.Lemmas.Trunc
import OtpVerif.Lemmas.Url
import OtpVerif.Lemmas.Validate
import OtpVerif.Lemmas.Window
import OtpVerif.Model.Decoder
import OtpVerif.Model.Derive
import OtpVerif.Model.Justified
import OtpVerif.Model.Leak
import OtpVerif.Model.Mem
import OtpVerif.Model.Ocra
import OtpVerif.Model.Otp
import OtpVerif.Model.Pool
import OtpVerif.Model.PoolProto
import OtpVerif.Model.Rest
import OtpVerif.Model.Suite
import OtpVerif.Model.Url
import OtpVerif.Model.Utils
import OtpVerif.Model.Wasm
import OtpVerif.Props.C01
import OtpVerif.Props.C02
import OtpVerif.Props.C03
import OtpVerif.Props.C04
import OtpVerif.Props.C05
import OtpVerif.Props.C06
import OtpVerif.Props.C07
import OtpVerif.Props.C08
import OtpVerif.Props.C09
import OtpVerif.Props.C10
import OtpVerif.Props.C11
import OtpVerif.Props.C12
import OtpVerif.Props.C13
import OtpVerif.Props.C14
import OtpVerif.Props.C15
import OtpVerif.Props.C16
import OtpVerif.Props.C17
import OtpVerif.Props.C18
import OtpVerif.Props.C19
import OtpVerif.Props.C20
import OtpVerif.Spec.All
import OtpVerif.Spec.Random
import OtpVerif.Spec.Base32
import OtpVerif.Spec.Rfc
import OtpVerif.Spec.SuiteGrammar
import OtpVerif.Std.Base32
import OtpVerif.Std.Sha
import OtpVerif.Std.Strings
import OtpVerif.Std.Url
import OtpVerif.Props.Purity

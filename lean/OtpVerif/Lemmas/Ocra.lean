/-
Lemmas about the OCRA model: input validation ⇔ `admissible`, `padBytes` under admission, message layout = the documented
layout, that a field the suite does not select is never read, and `deriveRFC6287` on every argument.
-/
import OtpVerif.Model.Ocra
import OtpVerif.Lemmas.Suite
import OtpVerif.Lemmas.Derive

namespace OtpVerif.Lemmas
open OtpVerif OtpVerif.Model

theorem challengeLength_eq (f : Int) (h0 : 0 ≤ f) (h6 : f ≤ 6) : challengeLength f = Spec.minQ f := by
  obtain ⟨n, rfl⟩ := Int.eq_ofNat_of_zero_le h0
  exact (by decide : ∀ n : Nat, n ≤ 6 → challengeLength n = Spec.minQ n) n (Int.ofNat_le.mp h6)

/-- the four password tests of `Validate` together: for a password hash 1, 2 or 3 the length is that hash's -/
theorem pw_tests {h : Int} {n : Nat} (hh : 1 ≤ h ∧ h ≤ 3) :
    (n ≠ 0 ∧ (h = 1 → n = 20) ∧ (h = 2 → n = 32) ∧ (h = 3 → n = 64)) ↔ n = Spec.pwLen h := by
  have : h = 1 ∨ h = 2 ∨ h = 3 := by omega
  rcases this with rfl | rfl | rfl <;> exact ⟨fun t => by simp [Spec.pwLen, t.2], fun t => by subst t; decide⟩

theorem inputValidate_iff (cfg : SuiteConfig) (i : OCRAInput) (hr : Spec.enumsInRange cfg) :
    inputValidate i cfg = none ↔ Spec.admissible cfg i := by
  obtain ⟨r0, r6, rp⟩ := hr
  simp only [inputValidate, ite_some_eq_none, Spec.admissible, challengeLength_eq _ r0 r6, not_and, Nat.not_lt,
    Decidable.not_not, and_true]
  constructor
  · rintro ⟨hC, hQ1, hQ2, hP0, hP1, hP2, hP3, hS, hT⟩
    exact ⟨hC, fun s => ⟨hQ1 s, hQ2 s⟩, fun s => (pw_tests (rp s)).mp ⟨hP0 s, hP1 s, hP2 s, hP3 s⟩, hS, hT⟩
  · rintro ⟨hC, hQ, hP, hS, hT⟩
    have hP' := fun s => (pw_tests (rp s)).mpr (hP s)
    exact ⟨hC, fun s => (hQ s).1, fun s => (hQ s).2, fun s => (hP' s).1, fun s => (hP' s).2.1, fun s => (hP' s).2.2.1,
      fun s => (hP' s).2.2.2, hS, hT⟩

theorem separator_eq : Gen.separator = 0 := by decide

theorem padBytes_le (b : Bytes) (w : Nat) (h : b.length ≤ w) : padBytes b w = Spec.padR w b := by
  unfold padBytes Spec.padR
  split
  · rw [List.take_of_length_le (by omega), show w - b.length = 0 by omega]; simp
  · rfl

theorem padBytes_exact (b : Bytes) (w : Nat) (h : b.length = w) : padBytes b w = b := by
  rw [padBytes_le b w (by omega), Spec.padR, h]; simp

/-! The hypotheses have the shape of `inputValidate`'s conditions. -/

theorem sel_pad_le {s : Bool} {b : Bytes} {w : Nat} (h : ¬(s = true ∧ b.length > w)) :
    (if s then padBytes b w else []) = if s then Spec.padR w b else [] := by
  split
  · rw [padBytes_le b w (Nat.le_of_not_lt fun n => h ⟨‹_›, n⟩)]
  · rfl

theorem sel_pad_exact {s : Bool} {b : Bytes} {w : Nat} (h : ¬(s = true ∧ b.length ≠ w)) :
    (if s then padBytes b w else []) = if s then b else [] := by
  split
  · rw [padBytes_exact b w (Classical.byContradiction fun n => h ⟨‹_›, n⟩)]
  · rfl

theorem ocraMessage_eq (cfg : SuiteConfig) (i : OCRAInput) (h : inputValidate i cfg = none) :
    ocraMessage cfg i = Spec.ocraMsg cfg i := by
  simp only [inputValidate, ite_some_eq_none] at h
  obtain ⟨hC, -, hQ, -, -, -, -, hS, hT, -⟩ := h
  rw [ocraMessage, Spec.ocraMsg, separator_eq, sel_pad_exact hC, sel_pad_le hQ, sel_pad_le hS, sel_pad_exact hT]
  rfl

/-! Every test `inputValidate` makes of a field is guarded by the field's flag, and so is every use `ocraMessage` makes of it. -/

theorem guard_congr {b p q : Prop} [Decidable (b ∧ p)] [Decidable (b ∧ q)] {α} {e r r' : α}
    (h : b → (p ↔ q)) (hr : r = r') : (if b ∧ p then e else r) = (if b ∧ q then e else r') := by
  subst hr
  simp only [and_congr_right h]

theorem inputValidate_unselected (cfg : SuiteConfig) (i i' : OCRAInput)
    (hC : cfg.incC = true → i.counter = i'.counter) (hQ : cfg.incQ = true → i.challenge = i'.challenge)
    (hP : cfg.incP = true → i.password = i'.password) (hS : cfg.incS = true → i.session = i'.session)
    (hT : cfg.incT = true → i.timestamp = i'.timestamp) :
    inputValidate i cfg = inputValidate i' cfg := by
  unfold inputValidate
  exact guard_congr (fun h => by rw [hC h]) <| guard_congr (fun h => by rw [hQ h]) <|
    guard_congr (fun h => by rw [hQ h]) <| guard_congr (fun h => by rw [hP h]) <|
    guard_congr (fun h => by rw [hP h]) <| guard_congr (fun h => by rw [hP h]) <|
    guard_congr (fun h => by rw [hP h]) <| guard_congr (fun h => by rw [hS h]) <|
    guard_congr (fun h => by rw [hT h]) rfl

theorem ocraMessage_unselected (cfg : SuiteConfig) (i i' : OCRAInput)
    (hC : cfg.incC = true → i.counter = i'.counter) (hQ : cfg.incQ = true → i.challenge = i'.challenge)
    (hP : cfg.incP = true → i.password = i'.password) (hS : cfg.incS = true → i.session = i'.session)
    (hT : cfg.incT = true → i.timestamp = i'.timestamp) : ocraMessage cfg i = ocraMessage cfg i' := by
  simp +contextual only [ocraMessage, hC, hQ, hP, hS, hT]

theorem deriveRFC6287_eq (O : HashOracle) (k : Bytes) (cfg : SuiteConfig) (i : OCRAInput) :
    deriveRFC6287 O k cfg i =
      match suiteValidate cfg, inputValidate i cfg with
      | none, none => .ok (Spec.ocra O.hmac k cfg i)
      | some e, _ => .err e
      | none, some e => .err e := by
  unfold deriveRFC6287
  cases hv : suiteValidate cfg with
  | some e => rfl
  | none =>
    cases hi : inputValidate i cfg with
    | some e => rfl
    | none =>
      obtain ⟨d4, d10, hh, -⟩ := (suiteValidate_iff cfg).mp hv
      simp only
      rw [if_neg (by omega), hashIdOf_eq cfg.hash hh, mod10_get _ (by omega : 1 ≤ cfg.digits.toNat) (by omega)]
      simp only
      rw [truncate_hmac O _ k _ hh]
      simp only
      rw [formatDecimal_eq, ocraMessage_eq cfg i hi]
      rfl

end OtpVerif.Lemmas

/-
`truncate` (uint32 shift / or / mask, as in derive.go) equals RFC 4226 dynamic truncation as
arithmetic (`Spec.dt`), reduced modulo `mod`.
The constants are the *regenerated* ones: `Gen.maskOffset = 15`, `Gen.mask31 = 2^31-1` are checked here.
-/
import OtpVerif.Model.Derive
import OtpVerif.Spec.Rfc

namespace OtpVerif.Lemmas
open OtpVerif OtpVerif.Model

theorem maskOffset_eq : Gen.maskOffset = 15 := by decide
theorem mask31_eq : Gen.mask31 = 2147483647 := by decide

theorem or_disjoint (x r k : Nat) (h : r < 2 ^ k) : x <<< k ||| r = x * 2 ^ k + r := by
  rw [← Nat.shiftLeft_add_eq_or_of_lt h, Nat.shiftLeft_eq]

/-- `binary.BigEndian.Uint32` written with shifts: from the right, each `|||` joins a byte to a number below it -/
theorem be32_nat (a b c d : Nat) (hb : b < 2 ^ 8) (hc : c < 2 ^ 8) (hd : d < 2 ^ 8) :
    a <<< 24 ||| b <<< 16 ||| c <<< 8 ||| d = a * 2 ^ 24 + (b * 2 ^ 16 + (c * 2 ^ 8 + d)) := by
  rw [Nat.or_assoc, Nat.or_assoc, or_disjoint c d 8 hd, or_disjoint b _ 16 (by omega), or_disjoint a _ 24 (by omega)]

theorem mul_add_mod_mul (a M : Nat) {B r : Nat} (hr : r < B) : (a * B + r) % (B * M) = a % M * B + r := by
  rw [Nat.mod_mul, Nat.mul_add_mod_of_lt hr, Nat.add_comm (a * B), Nat.add_mul_div_right _ _ (by omega),
    Nat.div_eq_of_lt hr, Nat.zero_add, Nat.add_comm, Nat.mul_comm]

theorem trunc_bits (a b c d : UInt8) :
    (((a.toUInt32 <<< 24) ||| (b.toUInt32 <<< 16) ||| (c.toUInt32 <<< 8) ||| d.toUInt32)
        &&& UInt32.ofNat 2147483647).toNat
      = a.toNat % 128 * 2 ^ 24 + b.toNat * 2 ^ 16 + c.toNat * 2 ^ 8 + d.toNat := by
  have hb := b.toNat_lt; have hc := c.toNat_lt; have hd := d.toNat_lt
  have fit (x : UInt8) (k : Nat) (hk : k ≤ 24) : x.toNat <<< k % 2 ^ 32 = x.toNat <<< k := by
    have : x.toNat * 2 ^ k < 2 ^ 8 * 2 ^ 24 :=
      Nat.mul_lt_mul_of_lt_of_le x.toNat_lt (Nat.pow_le_pow_right (by decide) hk) (Nat.two_pow_pos 24)
    rw [Nat.shiftLeft_eq]; exact Nat.mod_eq_of_lt this
  simp only [UInt32.toNat_and, UInt32.toNat_or, UInt32.toNat_shiftLeft, UInt8.toNat_toUInt32]
  rw [show UInt32.toNat 24 % 32 = 24 from rfl, show UInt32.toNat 16 % 32 = 16 from rfl,
    show UInt32.toNat 8 % 32 = 8 from rfl, show (UInt32.ofNat 2147483647).toNat = 2 ^ 31 - 1 from rfl,
    fit a 24 (by decide), fit b 16 (by decide), fit c 8 (by decide), be32_nat _ _ _ _ hb hc hd]
  -- the mask is `% 2 ^ 31`, which only touches the top byte
  rw [Nat.and_two_pow_sub_one_eq_mod, show 2 ^ 31 = 2 ^ 24 * 128 from rfl, mul_add_mod_mul _ _ (by omega),
    Nat.add_assoc, Nat.add_assoc]

theorem and15 (l : UInt8) : (l &&& UInt8.ofNat 15).toNat = l.toNat % 16 := by
  rw [UInt8.toNat_and, show (UInt8.ofNat 15).toNat = 2 ^ 4 - 1 from rfl, Nat.and_two_pow_sub_one_eq_mod]

theorem byteAt_some {h : Bytes} {i : Nat} (hi : i < h.length) :
    ∃ x, h[i]? = some x ∧ Spec.byteAt h i = x.toNat :=
  ⟨h[i], List.getElem?_eq_getElem hi, by simp [Spec.byteAt, hi]⟩

/-- 19 bytes suffice: the offset is at most 15 and four bytes are read from it -/
theorem truncate_eq (sum : Bytes) (m : Nat) (hlen : 19 ≤ sum.length) (hm : 0 < m) :
    truncate sum m = .ok (Spec.dt sum % m) := by
  obtain ⟨l, hl, el⟩ := byteAt_some (h := sum) (i := sum.length - 1) (by omega)
  -- the offset is at most 15, so the four bytes lie within the first 19
  have hin {i} (hi : i ≤ 3) : l.toNat % 16 + i < sum.length :=
    Nat.lt_of_lt_of_le (Nat.add_lt_add_of_lt_of_le (Nat.mod_lt _ (by decide)) hi) hlen
  obtain ⟨a, ha, ea⟩ := byteAt_some (h := sum) (i := l.toNat % 16) (hin (Nat.zero_le 3))
  obtain ⟨b, hb, eb⟩ := byteAt_some (hin (i := 1) (by decide))
  obtain ⟨c, hc, ec⟩ := byteAt_some (hin (i := 2) (by decide))
  obtain ⟨d, hd, ed⟩ := byteAt_some (hin (i := 3) (by decide))
  unfold truncate Spec.dt
  rw [List.getLast?_eq_getElem?, hl]
  simp only [maskOffset_eq, mask31_eq, and15, el, ha, hb, hc, hd, ea, eb, ec, ed]
  -- `uint32(uint64(code) % mod)` loses nothing, `code` being a `uint32`
  rw [if_neg (Nat.ne_of_gt hm), Nat.mod_eq_of_lt (Nat.lt_of_le_of_lt (Nat.mod_le _ _) (UInt32.toNat_lt _)), trunc_bits]

theorem truncate_hmac (O : HashOracle) (a : Nat) (k m : Bytes) (ha : a < 3) (d : Nat) :
    truncate (O.hmac a k m) (10 ^ d) = .ok (Spec.dt (O.hmac a k m) % 10 ^ d) := by
  refine truncate_eq _ _ ?_ (Nat.pow_pos (by decide))
  rw [O.len_ok a k m ha]; unfold hashLen; split <;> decide

end OtpVerif.Lemmas

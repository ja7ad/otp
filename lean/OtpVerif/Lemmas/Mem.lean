/-
Frame + refinement for the memory-level message assembly (Model/Mem.lean):
whatever the pooled buffer contained, the assembled message is the pure model's message, and every write
lands in the pooled buffer or in freshly allocated memory – caller memory is untouched.
-/
import OtpVerif.Model.Mem

namespace OtpVerif.Lemmas.Mem
open OtpVerif OtpVerif.Model OtpVerif.Model.Mem

theorem overwrite_length (arr : List UInt8) (pos : Nat) (bs : Bytes) (h : pos + bs.length ≤ arr.length) :
    (overwrite arr pos bs).length = arr.length := by
  unfold overwrite
  simp only [List.length_append, List.length_take, List.length_drop]
  omega

theorem read_after_overwrite (arr : List UInt8) (off len : Nat) (bs : Bytes) (h : off + len + bs.length ≤ arr.length) :
    ((overwrite arr (off + len) bs).drop off).take (len + bs.length) = ((arr.drop off).take len) ++ bs := by
  -- the array is `take off ++ take len (drop off) ++ bs ++ rest`: drop the first part, take the next two
  unfold overwrite
  rw [List.take_add (l := arr), List.append_assoc, List.append_assoc, List.drop_left' (by rw [List.length_take]; omega),
    ← List.append_assoc, List.take_left' (by rw [List.length_append, List.length_take, List.length_drop]; omega)]

theorem cells_write_ne (h : Heap) (addr pos : Nat) (bs : Bytes) {a : Nat} (ha : a ≠ addr) :
    (h.write addr pos bs).cells a = h.cells a := if_neg ha

theorem length_write (h : Heap) (addr pos : Nat) (bs : Bytes) (hfit : pos + bs.length ≤ (h.cells addr).length) :
    ((h.write addr pos bs).cells addr).length = (h.cells addr).length :=
  (congrArg List.length (if_pos rfl)).trans (overwrite_length _ _ _ hfit)

theorem read_write_extend (h : Heap) (s : Slice) (bs : Bytes) (hfit : s.off + s.len + bs.length ≤ (h.cells s.addr).length) :
    (h.write s.addr (s.off + s.len) bs).read { s with len := s.len + bs.length } = h.read s ++ bs :=
  (congrArg (fun c : List UInt8 => (c.drop s.off).take (s.len + bs.length)) (if_pos rfl)).trans (read_after_overwrite _ _ _ _ hfit)

theorem cells_allocWith_ne (h : Heap) (bs : Bytes) (cap : Nat) {a : Nat} (ha : a ≠ h.next) :
    (h.allocWith bs cap).1.cells a = h.cells a := if_neg ha

theorem read_allocWith (h : Heap) (bs : Bytes) (cap : Nat) : (h.allocWith bs cap).1.read (h.allocWith bs cap).2 = bs := by
  simp [Heap.read, Heap.allocWith]

theorem allocWith_wf (h : Heap) (bs : Bytes) (cap : Nat) :
    (h.allocWith bs cap).2.off + (h.allocWith bs cap).2.cap ≤ ((h.allocWith bs cap).1.cells (h.allocWith bs cap).2.addr).length := by
  show 0 + max cap bs.length ≤ (if h.next = h.next then bs ++ List.replicate (cap - bs.length) 0 else _).length
  rw [if_pos rfl, List.length_append, List.length_replicate]; omega

theorem read_congr {h h' : Heap} {s : Slice} (e : h'.cells s.addr = h.cells s.addr) : h'.read s = h.read s :=
  congrArg (fun c : List UInt8 => (c.drop s.off).take s.len) e

structure Inv (h0 : Heap) (poolAddr : Nat) (st : St) (m : Bytes) : Prop where
  msgOk   : st.h.read st.msg = m
  wf      : st.msg.off + st.msg.cap ≤ (st.h.cells st.msg.addr).length
  lenCap  : st.msg.len ≤ st.msg.cap
  home    : st.msg.addr = poolAddr ∨ h0.next ≤ st.msg.addr
  msgLive : st.msg.addr < st.h.next
  writes  : ∀ w ∈ st.writes, w = poolAddr ∨ h0.next ≤ w
  frame   : ∀ a, a ≠ poolAddr → a < h0.next → st.h.cells a = h0.cells a
  mono    : h0.next ≤ st.h.next

theorem Inv.alloc {h0 : Heap} {poolAddr : Nat} {st : St} {m : Bytes} (hi : Inv h0 poolAddr st m) (bs : Bytes) (cap : Nat) :
    Inv h0 poolAddr { st with h := (st.h.allocWith bs cap).1, writes := [st.h.next] ++ st.writes } m := by
  have hmsg := cells_allocWith_ne st.h bs cap (Nat.ne_of_lt hi.msgLive)
  have hmono := hi.mono
  exact { hi with
    msgOk := (read_congr hmsg).trans hi.msgOk
    wf := Nat.le_trans hi.wf (Nat.le_of_eq (congrArg _ hmsg.symm))
    msgLive := Nat.lt_succ_of_lt hi.msgLive
    writes := List.forall_mem_cons.mpr ⟨.inr hmono, hi.writes⟩
    frame := fun a ha hlt => (cells_allocWith_ne _ _ _ (by omega)).trans (hi.frame a ha hlt)
    mono := Nat.le_succ_of_le hmono }

theorem Inv.stepAppend {h0 : Heap} {poolAddr : Nat} {st : St} {m : Bytes} (hi : Inv h0 poolAddr st m) (src : Bytes) :
    Inv h0 poolAddr (stepAppend st src) (m ++ src) := by
  have hwf := hi.wf
  unfold Mem.stepAppend appendM
  split
  · -- in place: the bytes land behind the message in its own array
    have hne {a} (ha : a ≠ poolAddr) (hlt : a < h0.next) : a ≠ st.msg.addr := by rcases hi.home with e | e <;> omega
    exact { hi with
      msgOk := (read_write_extend st.h st.msg src (by omega)).trans (congrArg (· ++ src) hi.msgOk)
      wf := Nat.le_trans hwf (Nat.le_of_eq (length_write _ _ _ _ (by omega)).symm)
      lenCap := ‹_›
      writes := List.forall_mem_cons.mpr ⟨hi.home, hi.writes⟩
      frame := fun a ha hlt => (cells_write_ne _ _ _ _ (hne ha hlt)).trans (hi.frame a ha hlt) }
  · -- no room: the message moves to a fresh array, allocated beside it
    exact { hi.alloc _ _ with
      msgOk := (read_allocWith ..).trans (congrArg (· ++ src) hi.msgOk)
      wf := allocWith_wf ..
      lenCap := Nat.le_max_right _ _
      home := .inr hi.mono
      msgLive := Nat.lt_succ_self _ }

/-- a caller-owned slice: allocated before the call and not the pooled buffer -/
def CallerOwned (h0 : Heap) (poolAddr : Nat) (s : Slice) : Prop := s.addr < h0.next ∧ s.addr ≠ poolAddr

theorem Inv.read_caller {h0 : Heap} {poolAddr : Nat} {st : St} {m : Bytes} (hi : Inv h0 poolAddr st m) {s : Slice}
    (hs : CallerOwned h0 poolAddr s) : st.h.read s = h0.read s :=
  read_congr (hi.frame s.addr hs.2 hs.1)

theorem Inv.stepPadAppend {h0 : Heap} {poolAddr : Nat} {st : St} {m : Bytes} (hi : Inv h0 poolAddr st m)
    {input : Slice} (n : Nat) (hs : CallerOwned h0 poolAddr input) (hlen : (h0.read input).length = input.len) :
    Inv h0 poolAddr (stepPadAppend st input n) (m ++ padBytes (h0.read input) n) := by
  unfold Mem.stepPadAppend padBytesM padBytes
  rw [hlen, ← hi.read_caller hs]
  split
  · have : (st.h.read input).take n = st.h.read { input with len := n } := by
      unfold Heap.read; rw [List.take_take, Nat.min_eq_left ‹_›]
    rw [this]
    exact hi.stepAppend _
  · simp only [read_allocWith]
    exact (hi.alloc _ _).stepAppend _

theorem Inv.ite {h0 : Heap} {poolAddr : Nat} {st : St} {m : Bytes} (hi : Inv h0 poolAddr st m) (c : Bool) (f : St → St)
    {x : Bytes} (hf : ∀ st, Inv h0 poolAddr st m → Inv h0 poolAddr (f st) (m ++ x)) :
    Inv h0 poolAddr (if c then f st else st) (m ++ if c then x else []) := by
  cases c
  · simpa using hi
  · simpa using hf st hi

def inputOf (h0 : Heap) (i : InputM) : OCRAInput :=
  ⟨h0.read i.counter, h0.read i.challenge, h0.read i.password, h0.read i.session, h0.read i.timestamp⟩

structure InputsOk (h0 : Heap) (poolAddr : Nat) (i : InputM) : Prop where
  c : CallerOwned h0 poolAddr i.counter ∧ (h0.read i.counter).length = i.counter.len
  q : CallerOwned h0 poolAddr i.challenge ∧ (h0.read i.challenge).length = i.challenge.len
  p : CallerOwned h0 poolAddr i.password
  s : CallerOwned h0 poolAddr i.session ∧ (h0.read i.session).length = i.session.len
  t : CallerOwned h0 poolAddr i.timestamp ∧ (h0.read i.timestamp).length = i.timestamp.len

/-- **assembly theorem**: for any heap, any contents of the pooled buffer, any suite configuration and
caller-owned inputs: (1) the message read back is the pure model's message; (2) every address written is the
pooled buffer or fresh; (3) every other pre-existing array – all caller memory, including the spare capacity
behind every input slice – is unchanged -/
theorem assemble_spec (h0 : Heap) (pool : Slice) (cfg : SuiteConfig) (i : InputM)
    (hpool : pool.off + pool.cap ≤ (h0.cells pool.addr).length) (hlive : pool.addr < h0.next)
    (hin : InputsOk h0 pool.addr i) :
    let st := assemble h0 pool cfg i
    st.h.read st.msg = ocraMessage cfg (inputOf h0 i) ∧
    (∀ w ∈ st.writes, w = pool.addr ∨ h0.next ≤ w) ∧
    (∀ a, a ≠ pool.addr → a < h0.next → st.h.cells a = h0.cells a) := by
  have i0 : Inv h0 pool.addr { h := h0, msg := { pool with len := 0 }, writes := [] } [] :=
    { msgOk := rfl, wf := hpool, lenCap := Nat.zero_le _, home := .inl rfl, msgLive := hlive,
      writes := nofun, frame := fun _ _ _ => rfl, mono := Nat.le_refl _ }
  have i1 := i0.stepAppend cfg.raw
  have i2 := i1.stepAppend [UInt8.ofNat Gen.separator]
  have i3 := i2.ite cfg.incC (stepPadAppend · i.counter 8) fun _ hi => hi.stepPadAppend 8 hin.c.1 hin.c.2
  have i4 := i3.ite cfg.incQ (stepPadAppend · i.challenge 128) fun _ hi => hi.stepPadAppend 128 hin.q.1 hin.q.2
  have i5 := i4.ite cfg.incP (fun st => stepAppend st (st.h.read i.password)) fun st hi => by
    rw [hi.read_caller hin.p]; exact hi.stepAppend _
  have i6 := i5.ite cfg.incS (stepPadAppend · i.session 128) fun _ hi => hi.stepPadAppend 128 hin.s.1 hin.s.2
  have i7 := i6.ite cfg.incT (stepPadAppend · i.timestamp 8) fun _ hi => hi.stepPadAppend 8 hin.t.1 hin.t.2
  refine ⟨i7.msgOk.trans ?_, i7.writes, i7.frame⟩
  simp only [ocraMessage, inputOf, List.nil_append, List.append_assoc]

end OtpVerif.Lemmas.Mem

/-
Positional numerals: the value of a digit string in base `b` (`Pos.val`; `decValue` / `decVal` (10), `hexValue` (16) and
`beValue` (256), defined in Model/Utils, Lemmas/Url and Props/C17, are instances by `rfl`), the `d` low digits of a number
and the right-to-left loops of the code that write them (`digitLoop_eq`; `longDigit`, `formatDecimal`, `shortDigit` against `zeroPad`), digit characters, `strconv.Itoa`.
-/
import OtpVerif.Model.Derive
import OtpVerif.Std.Url
import OtpVerif.Lemmas.Ascii

namespace OtpVerif.Lemmas.Pos
open OtpVerif

section
variable {α : Type} (b : Nat) (f : α → Nat)

def val (l : List α) : Nat := l.foldl (fun n x => n * b + f x) 0

theorem foldl_eq (l : List α) : ∀ init : Nat,
    l.foldl (fun n x => n * b + f x) init = init * b ^ l.length + val b f l := by
  unfold val
  induction l with
  | nil => intro init; simp
  | cons x t ih =>
    intro init
    simp only [List.foldl_cons, List.length_cons]
    rw [ih (init * b + f x), ih (0 * b + f x), Nat.pow_succ, Nat.add_mul, Nat.zero_mul, Nat.zero_add,
      Nat.mul_assoc, Nat.mul_comm b, Nat.add_assoc]

@[simp] theorem val_nil : val b f [] = 0 := rfl

theorem val_cons (x : α) (l : List α) : val b f (x :: l) = f x * b ^ l.length + val b f l := by
  show l.foldl _ (0 * b + f x) = _
  rw [foldl_eq, Nat.zero_mul, Nat.zero_add]

theorem val_append (l₁ l₂ : List α) : val b f (l₁ ++ l₂) = val b f l₁ * b ^ l₂.length + val b f l₂ := by
  show (l₁ ++ l₂).foldl _ 0 = _
  rw [List.foldl_append, foldl_eq]; rfl

theorem val_concat (l : List α) (x : α) : val b f (l ++ [x]) = val b f l * b + f x := by
  unfold val; rw [List.foldl_append]; rfl

theorem val_replicate_zero (x : α) (hx : f x = 0) (k : Nat) : val b f (List.replicate k x) = 0 := by
  induction k with
  | zero => rfl
  | succ k ih => rw [List.replicate_succ, val_cons, hx, ih, Nat.zero_mul]

theorem val_zeros_append (x : α) (hx : f x = 0) (k : Nat) (l : List α) :
    val b f (List.replicate k x ++ l) = val b f l := by
  rw [val_append, val_replicate_zero b f x hx, Nat.zero_mul, Nat.zero_add]

theorem val_append_zeros (x : α) (hx : f x = 0) (k : Nat) (l : List α) :
    val b f (l ++ List.replicate k x) = val b f l * b ^ k := by
  rw [val_append, val_replicate_zero b f x hx, List.length_replicate, Nat.add_zero]

theorem val_lt (l : List α) (h : ∀ x ∈ l, f x < b) : val b f l < b ^ l.length := by
  induction l with
  | nil => simp
  | cons x t ih =>
    have hx := h x (by simp)
    have := ih (fun y hy => h y (by simp [hy]))
    rw [val_cons, List.length_cons, Nat.pow_succ]
    calc f x * b ^ t.length + val b f t < f x * b ^ t.length + b ^ t.length := by omega
      _ = (f x + 1) * b ^ t.length := by rw [Nat.add_mul, Nat.one_mul]
      _ ≤ b * b ^ t.length := Nat.mul_le_mul_right _ hx
      _ = b ^ t.length * b := Nat.mul_comm _ _

theorem val_take_drop (l : List α) (k : Nat) (h : ∀ x ∈ l, f x < b) :
    val b f (l.take k) = val b f l / b ^ (l.length - k) ∧ val b f (l.drop k) = val b f l % b ^ (l.length - k) := by
  have hlt := val_lt b f (l.drop k) fun x hx => h x (List.mem_of_mem_drop hx)
  have e := val_append b f (l.take k) (l.drop k)
  rw [List.take_append_drop, List.length_drop] at e
  rw [List.length_drop] at hlt
  rw [e, Nat.mul_comm, Nat.mul_add_div (Nat.zero_lt_of_lt hlt), Nat.div_eq_of_lt hlt, Nat.mul_add_mod, Nat.mod_eq_of_lt hlt]
  exact ⟨rfl, rfl⟩

end

end OtpVerif.Lemmas.Pos

namespace OtpVerif.Lemmas
open OtpVerif OtpVerif.Model OtpVerif.Std.Url

theorem digits_succ {α : Type} (b : Nat) (dig : Nat → α) (d v : Nat) :
    (List.range (d + 1)).map (fun j => dig (v / b ^ (d + 1 - 1 - j))) =
      (List.range d).map (fun j => dig (v / b / b ^ (d - 1 - j))) ++ [dig v] := by
  rw [List.range_succ, List.map_append]
  congr 1
  · apply List.map_congr_left
    intro j hj
    have hj := List.mem_range.mp hj
    rw [Nat.div_div_eq_div_mul, ← Nat.pow_succ', show d + 1 - 1 - j = d - 1 - j + 1 by omega]
  · simp

/-- Every digit loop of the code has this shape: cell `i-1` receives the digit of `v`, and the loop goes on to the
left with `v / b`. -/
theorem digitLoop_eq {α : Type} (b : Nat) (dig : Nat → α) (loop : Nat → Nat → List α → List α)
    (h0 : ∀ v out, loop 0 v out = out) (hs : ∀ i v out, loop (i + 1) v out = loop i (v / b) (out.set i (dig v))) :
    ∀ i v out, i ≤ out.length → loop i v out = (List.range i).map (fun j => dig (v / b ^ (i - 1 - j))) ++ out.drop i := by
  intro i
  induction i with
  | zero => intro v out _; simp [h0]
  | succ i ih =>
    intro v out hi
    have hlt : i < (out.set i (dig v)).length := by rw [List.length_set]; exact hi
    rw [hs, ih _ _ (Nat.le_of_lt hlt), digits_succ, List.append_assoc, List.drop_eq_getElem_cons hlt, List.getElem_set_self,
      List.drop_set_of_lt (Nat.lt_succ_self i)]
    rfl

theorem val_digits {α : Type} (b : Nat) (f : α → Nat) (dig : Nat → α) (hd : ∀ n, f (dig n) = n % b) (d v : Nat) :
    Pos.val b f ((List.range d).map (fun j => dig (v / b ^ (d - 1 - j)))) = v % b ^ d := by
  induction d generalizing v with
  | zero => simp [Nat.mod_one]
  | succ d ih =>
    rw [digits_succ, Pos.val_concat, ih, hd, Nat.pow_succ', Nat.mod_mul, Nat.mul_comm, Nat.add_comm]

theorem digitChar_zero : digitChar 0 = 48 := by decide

theorem digitChar_mod (n : Nat) : (48 + n % 10).toUInt8 = digitChar n := rfl

theorem digitChar_toNat (n : Nat) : (digitChar n).toNat = 48 + n % 10 :=
  toUInt8_toNat _ (by have := Nat.mod_lt n (show 0 < 10 by decide); omega)

theorem isDigitChar_digitChar (n : Nat) : isDigitChar (digitChar n) = true := by
  have h : n % 10 < 10 := Nat.mod_lt _ (by omega)
  simp [isDigitChar, digitChar_toNat]; omega

theorem zeroPad_getElem? (d n j : Nat) (h : j < d) :
    (zeroPad d n)[j]? = some (digitChar (n / 10 ^ (d - 1 - j))) := by
  simp [zeroPad, h]

theorem zeroPad_succ (d v : Nat) : zeroPad (d + 1) v = zeroPad d (v / 10) ++ [digitChar v] :=
  digits_succ 10 digitChar d v

theorem zeroPad_zero (d : Nat) : zeroPad d 0 = List.replicate d 48 := by
  induction d with
  | zero => rfl
  | succ d ih => rw [zeroPad_succ, ih, digitChar_zero, List.replicate_succ']

theorem zeroPad_all_digits (d n : Nat) : (zeroPad d n).all isDigitChar = true := by
  simp [zeroPad, isDigitChar_digitChar]

theorem longLoop_eq (d v : Nat) (out : List UInt8) (h : d ≤ out.length) : longLoop d v out = zeroPad d v ++ out.drop d :=
  digitLoop_eq 10 digitChar longLoop (fun _ _ => rfl) (fun _ _ _ => rfl) d v out h

theorem longDigit_eq (v d : Nat) : longDigit v d = zeroPad d v := by
  unfold longDigit
  rw [longLoop_eq d v _ (by simp)]
  simp

theorem formatDecimal_eq (v d : Nat) : formatDecimal v d = zeroPad d v := longDigit_eq v d

theorem shortLoop2_eq (i : Nat) (pad : List UInt8) : shortLoop2 i pad = longLoop i 0 pad := by
  induction i generalizing pad with
  | zero => rfl
  | succ i ih => exact ih _

/-- `shortDigit`'s two loops are `longDigit`'s one: the first stops early when only zeros are left, the second writes them -/
theorem shortLoops_eq (i otp : Nat) (pad : List UInt8) :
    shortLoop2 (shortLoop1 i otp pad).1 (shortLoop1 i otp pad).2 = longLoop i otp pad := by
  induction i generalizing otp pad with
  | zero => rfl
  | succ i ih =>
    unfold shortLoop1
    split
    · exact ih _ _
    · rw [show otp = 0 by omega]; exact shortLoop2_eq _ _

/-- `d ≤ 8`: the size of `shortDigit`'s array -/
theorem shortDigit_eq (v d : Nat) (hd : d ≤ 8) : shortDigit v d = .ok (zeroPad d v) := by
  unfold shortDigit
  rw [if_neg (by omega)]
  simp only [shortLoops_eq, longLoop_eq d v _ (show d ≤ (List.replicate 8 (0 : UInt8)).length by simpa using hd)]
  rw [List.take_left' (zeroPad_length d v)]

theorem decDigits_eq (n : Nat) : ∀ (fuel : Nat) (acc : Bytes), n < fuel → decDigits fuel n acc = itoa n ++ acc := by
  induction n using Nat.strongRecOn with
  | _ n ih =>
    intro fuel acc h
    obtain ⟨f, rfl⟩ : ∃ f, fuel = f + 1 := ⟨fuel - 1, by omega⟩
    unfold itoa decDigits
    split
    · rfl
    · rw [ih (n / 10) (by omega) f _ (by omega), ih (n / 10) (by omega) n _ (by omega)]
      simp

theorem itoa_small (v : Nat) (h : v < 10) : itoa v = [digitChar v] := by
  unfold itoa decDigits digitChar
  rw [if_pos h, Nat.mod_eq_of_lt h]

theorem itoa_snoc (v : Nat) (h : ¬ v < 10) : itoa v = itoa (v / 10) ++ [digitChar v] := by
  unfold itoa
  conv => lhs; unfold decDigits
  rw [if_neg h]
  exact decDigits_eq (v / 10) v _ (by omega)

-- `Std.Url.unhex`, `hexDigit`, `splitSign` (the URL model) and `Model.unhex`, `hexDigitUpper`,
-- `splitSign` (the OCRA model) are the same functions written twice, equal by `rfl`: Props/C17 uses these lemmas for the
-- `Model` ones.
theorem unhex_hexDigit : ∀ n < 16, Std.Url.unhex (Std.Url.hexDigit n) = some n := by decide

theorem unhex_getD_lt (c : UInt8) : (Std.Url.unhex c).getD 0 < 16 := by
  unfold Std.Url.unhex
  (repeat' split) <;> simp only [Option.getD_some, Option.getD_none] <;> omega

theorem unhex_lt (c : UInt8) (v : Nat) (h : Std.Url.unhex c = some v) : v < 16 := by
  have := unhex_getD_lt c
  rwa [h] at this

theorem splitSign_numeral (s : Bytes) (h : s.all isDigitChar = true) : Std.Url.splitSign s = (false, s) := by
  unfold Std.Url.splitSign
  split
  · exact absurd (List.all_eq_true.mp h 43 List.mem_cons_self) (by decide)
  · exact absurd (List.all_eq_true.mp h 45 List.mem_cons_self) (by decide)
  · rfl

end OtpVerif.Lemmas

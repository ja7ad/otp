/-
`validate` and what is built on it: a validation that returns, returns a verdict `(true, nil)` or `(false, err)`;
it accepts exactly the derived code; the per-counter check of the window loops is a total Boolean test.
-/
import OtpVerif.Lemmas.Derive
import OtpVerif.Lemmas.Window

namespace OtpVerif.Lemmas
open OtpVerif OtpVerif.Model

theorem ctEq_iff (x y : Bytes) : ctEq x y = true ↔ x = y := by
  unfold ctEq; exact beq_iff_eq

theorem Out.ok_or_err {α} {x : Out α} (h : x ≠ .panic) : (∃ a, x = .ok a) ∨ ∃ e, x = .err e := by
  cases x with
  | ok a => exact .inl ⟨a, rfl⟩
  | err e => exact .inr ⟨e, rfl⟩
  | panic => exact absurd rfl h

/-- what a Go validation `(bool, error)` returns when it returns: `(true, nil)` or `(false, err)` -/
def IsVerdict (v : Out Verdict) : Prop := v = .ok (true, none) ∨ ∃ e, v = .ok (false, some e)

theorem IsVerdict.ne_panic {v : Out Verdict} (h : IsVerdict v) : v ≠ .panic := by
  rcases h with h | ⟨_, h⟩ <;> (rw [h]; nofun)

theorem IsVerdict.accepted_eq {v : Out Verdict} (h : IsVerdict v) : accepted v = .ok (decide (v = .ok (true, none))) := by
  rcases h with h | ⟨_, h⟩ <;> (rw [h]; rfl)

theorem validate_isVerdict (code : Bytes) (len : Int) {d : Out Bytes} (hd : d ≠ .panic) : IsVerdict (validate code len d) := by
  unfold validate
  split
  · exact .inr ⟨_, rfl⟩
  · split
    · split
      · exact .inl rfl
      · exact .inr ⟨_, rfl⟩
    · exact .inr ⟨_, rfl⟩
    · exact absurd rfl hd

theorem validate_true_iff (code : Bytes) (len : Int) (d : Out Bytes) :
    validate code len d = .ok (true, none) ↔ (code.length : Int) = len ∧ d = .ok code := by
  unfold validate
  split
  · exact ⟨nofun, fun h => absurd h.1 ‹_›⟩
  · rename_i hl
    split
    · rename_i x
      by_cases he : code = x
      · subst he; rw [if_pos ((ctEq_iff _ _).mpr rfl)]; exact ⟨fun _ => ⟨Decidable.not_not.mp hl, rfl⟩, fun _ => rfl⟩
      · rw [if_neg (fun h => he ((ctEq_iff _ _).mp h))]; exact ⟨nofun, fun h => absurd (Out.ok.inj h.2).symm he⟩
    · exact ⟨nofun, fun h => nomatch h.2⟩
    · exact ⟨nofun, fun h => nomatch h.2⟩

theorem accepted_validate (O : HashOracle) (code key : Bytes) (c d a : Nat) :
    accepted (validateRFC4226 O code key c d a) =
      .ok (decide ((1 ≤ d ∧ d ≤ 10 ∧ a < 3) ∧ code = Spec.hotp O.hmac a key c d)) := by
  unfold validateRFC4226
  rw [(validate_isVerdict code d (deriveRFC4226_no_panic O key c d a)).accepted_eq]
  refine congrArg Out.ok (decide_eq_decide.mpr ?_)
  rw [validate_true_iff, deriveRFC4226_eq]
  constructor
  · rintro ⟨_, h⟩
    split at h
    · cases h
    · split at h
      · cases h
      · exact ⟨by omega, (Out.ok.inj h).symm⟩
  · rintro ⟨hsup, rfl⟩
    rw [if_neg (by omega), if_neg (by omega)]
    exact ⟨congrArg _ (hotp_shape O a key c d).1, rfl⟩

def verdictOf (b : Bool) : Verdict := if b then (true, none) else (false, some .invalidCode)

theorem verdictOf_isVerdict (b : Bool) : IsVerdict (.ok (verdictOf b)) := by
  cases b
  · exact .inr ⟨_, rfl⟩
  · exact .inl rfl

/-- the shared tail of `ValidateHOTP` / `ValidateTOTP`, once the window loop has answered (the `match` is theirs, written out
again: `exact windowTail _` closes their goals because the two matchers unfold to the same case analysis) -/
theorem windowTail (b : Bool) :
    (match (Out.ok b : Out Bool) with
      | .ok true => .ok (true, none)
      | .ok false => .ok (false, some .invalidCode)
      | .err e => .err e
      | .panic => .panic : Out Verdict) = .ok (verdictOf b) := by
  cases b <;> rfl

theorem windowVerdict (probe : Int → Out Bool) (hp : ∀ i, ∃ b, probe i = .ok b) (hi : Int) (fuel : Nat) (lo : Int) :
    IsVerdict (match windowLoop probe hi fuel lo with
      | .ok true => .ok (true, none)
      | .ok false => .ok (false, some .invalidCode)
      | .err e => .err e
      | .panic => .panic) := by
  obtain ⟨b, h⟩ := windowLoop_total probe hp hi fuel lo
  rw [h, windowTail]
  exact verdictOf_isVerdict b

end OtpVerif.Lemmas

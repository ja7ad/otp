/-
The encoder model `enc` / `encNoPad` and its relation to the decoder model: the decoder inverts the padded encoder on
every byte string.  The 5-byte quantum is treated once (`syms`, `pack_syms`, which rests on `quantum`); a last quantum
of fewer than five bytes is the quantum of the zero-filled bytes cut after the symbols that hold data, which is how
`enc` and `pack` are written.  Then shape facts about encodings: length, padding, alphabet.
-/
import OtpVerif.Lemmas.Base32Decoder

namespace OtpVerif.Lemmas.B32
open OtpVerif.Std.B32

theorem sym_alpha (n : Nat) (h : n < 32) : sym (alpha n) = some n := by
  unfold sym alpha
  by_cases hn : n < 26
  · rw [if_pos hn, if_pos (by omega)]; congr 1; omega
  · rw [if_neg hn, if_neg (by omega), if_pos (by omega)]; congr 1; omega

theorem isSym_alpha (n : Nat) (h : n < 32) : isSym (alpha n) = true := by rw [isSym, sym_alpha n h]; rfl

theorem filterMap_sym_alpha (d : List Nat) (hd : ∀ v ∈ d, v < 32) : (d.map alpha).filterMap sym = d := by
  induction d with
  | nil => rfl
  | cons v d ih =>
    rw [List.forall_mem_cons] at hd
    rw [List.map_cons, List.filterMap_cons, sym_alpha v hd.1, ih hd.2]

theorem all_isSym_alpha (d : List Nat) (hd : ∀ v ∈ d, v < 32) : ∀ c ∈ d.map alpha, isSym c = true :=
  List.forall_mem_map.mpr fun v hv => isSym_alpha v (hd v hv)

theorem decodeLoop_last_enc (f : Nat) (d : List Nat) (k : Nat) (hd : ∀ v ∈ d, v < 32) (h8 : d.length + k = 8) :
    decodeLoop (f + 2) (d.map alpha ++ List.replicate k PAD) = pack d := by
  have hs := all_isSym_alpha d hd
  rw [decodeLoop_last _ _ (by simpa using h8), List.takeWhile_append_of_pos hs, List.dropWhile_append_of_pos hs,
    List.takeWhile_replicate, List.dropWhile_replicate]
  simp [isSym, sym_pad, filterMap_sym_alpha d hd]

/-- one quantum: the decoder's packing formulas (`pack`) undo the encoder's symbol formulas `s0 … s7`.  Each byte is cut at
fixed bit positions and put together again: div / mod by powers of two, which `omega` decides -/
theorem quantum (b0 b1 b2 b3 b4 : Nat) (h0 : b0 < 256) (h1 : b1 < 256) (h2 : b2 < 256) (h3 : b3 < 256) (h4 : b4 < 256) :
    ((s0 b0 * 8) % 256 + s1 b0 b1 / 4 = b0) ∧
    ((s1 b0 b1 * 64) % 256 + (s2 b1 * 2) % 256 + s3 b1 b2 / 16 = b1) ∧
    ((s3 b1 b2 * 16) % 256 + s4 b2 b3 / 2 = b2) ∧
    ((s4 b2 b3 * 128) % 256 + (s5 b3 * 4) % 256 + s6 b3 b4 / 8 = b3) ∧
    ((s6 b3 b4 * 32) % 256 + s7 b4 = b4) := by
  unfold s0 s1 s2 s3 s4 s5 s6 s7
  omega

def syms (b0 b1 b2 b3 b4 : Nat) : List Nat := [s0 b0, s1 b0 b1, s2 b1, s3 b1 b2, s4 b2 b3, s5 b3, s6 b3 b4, s7 b4]

theorem syms_lt (b0 b1 b2 b3 b4 : Nat) (h : ∀ x ∈ [b0, b1, b2, b3, b4], x < 256) : ∀ v ∈ syms b0 b1 b2 b3 b4, v < 32 := by
  simp only [syms, List.forall_mem_cons, List.not_mem_nil, false_imp_iff, implies_true, and_true, s0, s1, s2, s3, s4, s5, s6, s7] at h ⊢
  omega

theorem pack_syms (b0 b1 b2 b3 b4 : Nat) (h : ∀ x ∈ [b0, b1, b2, b3, b4], x < 256) (n : Nat) (h1 : 1 ≤ n) (h5 : n ≤ 5) :
    pack ((syms b0 b1 b2 b3 b4).take ((8 * n + 4) / 5)) = some ([b0, b1, b2, b3, b4].take n) := by
  simp only [List.forall_mem_cons] at h
  obtain ⟨q0, q1, q2, q3, q4⟩ := quantum b0 b1 b2 b3 b4 h.1 h.2.1 h.2.2.1 h.2.2.2.1 h.2.2.2.2.1
  obtain rfl | rfl | rfl | rfl | rfl : n = 1 ∨ n = 2 ∨ n = 3 ∨ n = 4 ∨ n = 5 := by omega
  all_goals simp [syms, pack, *]

theorem decodeLoop_enc_short (b0 b1 b2 b3 b4 : Nat) (h : ∀ x ∈ [b0, b1, b2, b3, b4], x < 256) (n : Nat) (h1 : 1 ≤ n) (h4 : n ≤ 4)
    (fuel : Nat) (hf : 2 ≤ fuel) :
    decodeLoop fuel (((syms b0 b1 b2 b3 b4).take ((8 * n + 4) / 5)).map alpha ++ List.replicate (8 - (8 * n + 4) / 5) PAD) =
      some ([b0, b1, b2, b3, b4].take n) := by
  obtain ⟨f, rfl⟩ : ∃ f, fuel = f + 2 := ⟨fuel - 2, by omega⟩
  rw [decodeLoop_last_enc f _ _ (fun v hv => syms_lt b0 b1 b2 b3 b4 h v (List.mem_of_mem_take hv)) (by simp [syms]; omega)]
  exact pack_syms b0 b1 b2 b3 b4 h n h1 (by omega)

theorem decodeLoop_enc : ∀ (b : List Nat), (∀ x ∈ b, x < 256) → ∀ fuel, b.length / 5 + 2 ≤ fuel → decodeLoop fuel (enc b) = some b := by
  intro b
  induction b using enc.induct with
  | case1 b0 b1 b2 b3 b4 rest ih =>
    intro hb fuel hf
    obtain ⟨f, rfl⟩ : ∃ f, fuel = f + 1 := ⟨fuel - 1, by omega⟩
    have hq := fun x (hx : x ∈ [b0, b1, b2, b3, b4]) => hb x (List.mem_append_left rest hx)
    have hs := syms_lt b0 b1 b2 b3 b4 hq
    rw [show enc (b0 :: b1 :: b2 :: b3 :: b4 :: rest) = (syms b0 b1 b2 b3 b4).map alpha ++ enc rest by rw [enc]; rfl,
      decodeLoop_syms f _ _ rfl (all_isSym_alpha _ hs), filterMap_sym_alpha _ hs,
      show pack (syms b0 b1 b2 b3 b4) = _ from pack_syms b0 b1 b2 b3 b4 hq 5 (by omega) (by omega),
      ih (fun x hx => hb x (List.mem_append_right [b0, b1, b2, b3, b4] hx)) f (by simp only [List.length_cons] at hf; omega)]
    rfl
  | case2 b0 b1 b2 b3 =>
    exact fun hb fuel hf => decodeLoop_enc_short b0 b1 b2 b3 0 (by simpa using hb) 4 (by omega) (by omega) fuel (by simpa using hf)
  | case3 b0 b1 b2 =>
    exact fun hb fuel hf => decodeLoop_enc_short b0 b1 b2 0 0 (by simpa using hb) 3 (by omega) (by omega) fuel (by simpa using hf)
  | case4 b0 b1 =>
    exact fun hb fuel hf => decodeLoop_enc_short b0 b1 0 0 0 (by simpa using hb) 2 (by omega) (by omega) fuel (by simpa using hf)
  | case5 b0 =>
    exact fun hb fuel hf => decodeLoop_enc_short b0 0 0 0 0 (by simpa using hb) 1 (by omega) (by omega) fuel (by simpa using hf)
  | case6 => intro _ fuel hf; obtain ⟨f, rfl⟩ : ∃ f, fuel = f + 1 := ⟨fuel - 1, by omega⟩; rfl

theorem encNoPad_length : ∀ (l : List Nat), (encNoPad l).length = (8 * l.length + 4) / 5
  | [] | [_] | [_, _] | [_, _, _] | [_, _, _, _] => by simp [encNoPad]
  | _ :: _ :: _ :: _ :: _ :: rest => by
    rw [encNoPad]; simp only [List.length_cons, encNoPad_length rest]; omega

theorem enc_eq_noPad (b : List Nat) : enc b = encNoPad b ++ List.replicate (padAmt (encNoPad b).length) PAD := by
  induction b using enc.induct with
  | case1 b0 b1 b2 b3 b4 rest ih =>
    have : padAmt (encNoPad (b0 :: b1 :: b2 :: b3 :: b4 :: rest)).length = padAmt (encNoPad rest).length :=
      congrArg (fun m => (8 - m) % 8) (Nat.add_mod_right (encNoPad rest).length 8)
    rw [enc, ih, this]; rfl
  | case2 | case3 | case4 | case5 | case6 => simp [enc, encNoPad, padAmt]

theorem enc_length (b : List Nat) : (enc b).length = 8 * ((b.length + 4) / 5) := by
  rw [enc_eq_noPad, List.length_append, List.length_replicate, encNoPad_length, padAmt]; omega

theorem syms_isSym (b0 b1 b2 b3 b4 : Nat) (h : ∀ x ∈ [b0, b1, b2, b3, b4], x < 256) :
    ∀ c ∈ (syms b0 b1 b2 b3 b4).map alpha, isSym c = true :=
  all_isSym_alpha _ (syms_lt b0 b1 b2 b3 b4 h)

theorem encNoPad_chars : ∀ (b : List Nat), (∀ x ∈ b, x < 256) → ∀ c ∈ encNoPad b, isSym c = true := by
  intro b
  induction b using encNoPad.induct with
  | case1 b0 b1 b2 b3 b4 rest ih =>
    intro hb c hc
    rw [show encNoPad (b0 :: b1 :: b2 :: b3 :: b4 :: rest) = (syms b0 b1 b2 b3 b4).map alpha ++ encNoPad rest by
      rw [encNoPad]; rfl] at hc
    rcases List.mem_append.mp hc with h | h
    · exact syms_isSym b0 b1 b2 b3 b4 (fun x hx => hb x (List.mem_append_left rest hx)) c h
    · exact ih (fun x hx => hb x (List.mem_append_right [b0, b1, b2, b3, b4] hx)) c h
  | case2 b0 b1 b2 b3 =>
    exact fun hb c hc => syms_isSym b0 b1 b2 b3 0 (by simpa using hb) c (List.mem_of_mem_take (i := 7) hc)
  | case3 b0 b1 b2 =>
    exact fun hb c hc => syms_isSym b0 b1 b2 0 0 (by simpa using hb) c (List.mem_of_mem_take (i := 5) hc)
  | case4 b0 b1 =>
    exact fun hb c hc => syms_isSym b0 b1 0 0 0 (by simpa using hb) c (List.mem_of_mem_take (i := 4) hc)
  | case5 b0 =>
    exact fun hb c hc => syms_isSym b0 0 0 0 0 (by simpa using hb) c (List.mem_of_mem_take (i := 2) hc)
  | case6 => exact fun _ => nofun

theorem enc_chars (b : List Nat) (hb : ∀ x ∈ b, x < 256) : ∀ c ∈ enc b, isEncChar c := by
  rw [enc_eq_noPad]
  exact List.forall_mem_append.mpr ⟨fun c h => .inl (encNoPad_chars b hb c h), List.forall_mem_replicate.mpr (.inr (.inr rfl))⟩

theorem decode_enc (b : List Nat) (hb : ∀ x ∈ b, x < 256) : decode (enc b) = some b := by
  rw [decode_eq_loop _ (enc_chars b hb)]
  exact decodeLoop_enc b hb _ (by rw [enc_length]; omega)

end OtpVerif.Lemmas.B32

/-
The `-skew..+skew` loops of ValidateHOTP / ValidateTOTP as written (Int index, underflow guard, wrapping uint64 addition,
first match wins, explicit fuel): with a total per-counter check the loop computes a Boolean, `any` over the offsets; each
probe examines the counter `(c + j) mod 2^64`.  The window lemmas spell that counter out as `((c + j) % 2 ^ 64).toNat`, the form
the C03 / C04 theorems are stated in (`toU64` of it, unfolded).
-/
import OtpVerif.Model.Otp

namespace OtpVerif.Lemmas
open OtpVerif OtpVerif.Model

/-- the indices `lo, lo+1, …, hi` of `for i := lo; i <= hi; i++` -/
def span (lo hi : Int) : List Int := (List.range (hi - lo + 1).toNat).map fun (n : Nat) => lo + (n : Int)

theorem mem_span {lo hi j : Int} : j ∈ span lo hi ↔ lo ≤ j ∧ j ≤ hi := by
  simp only [span, List.mem_map, List.mem_range]
  exact ⟨fun ⟨n, h, e⟩ => by omega, fun h => ⟨(j - lo).toNat, by omega, by omega⟩⟩

theorem span_nil {lo hi : Int} (h : hi < lo) : span lo hi = [] := by
  have : (hi - lo + 1).toNat = 0 := by omega
  simp [span, this]

theorem span_cons {lo hi : Int} (h : lo ≤ hi) : span lo hi = lo :: span (lo + 1) hi := by
  have : (hi - lo + 1).toNat = (hi - (lo + 1) + 1).toNat + 1 := by omega
  simp only [span, this, List.range_succ_eq_map, List.map_cons, List.map_map]
  simp [Function.comp_def, Int.add_assoc, Int.add_comm 1]

/-- a result computed from a Boolean `b`, in the two-clause form the property theorems are stated in (with `hb := Iff.rfl` it
reads `b` off an accepted answer) -/
theorem ok_iff {α} {x : Out α} (g : Bool → α) {b : Bool} {P : Prop} (hx : x = .ok (g b)) (hg : g true ≠ g false)
    (hb : b = true ↔ P) : (x = .ok (g true) ↔ P) ∧ (x = .ok (g true) ∨ x = .ok (g false)) := by
  subst hx
  cases b with
  | true => exact ⟨⟨fun _ => hb.mp rfl, fun _ => rfl⟩, Or.inl rfl⟩
  | false => exact ⟨⟨fun h => absurd (Out.ok.inj h).symm hg, fun h => Bool.noConfusion (hb.mpr h)⟩, Or.inr rfl⟩

theorem windowLoop_any (probe : Int → Out Bool) (pb : Int → Bool) (hp : ∀ i, probe i = .ok (pb i)) (hi : Int) :
    ∀ (fuel : Nat) (i : Int), windowLoop probe hi fuel i = .ok (((span i hi).take fuel).any pb) := by
  intro fuel
  induction fuel with
  | zero => intro i; rfl
  | succ n ih =>
    intro i
    unfold windowLoop
    by_cases hgt : i > hi
    · rw [if_pos hgt, span_nil hgt]; rfl
    · rw [if_neg hgt, hp i, span_cons (by omega), List.take_succ_cons, List.any_cons]
      cases pb i with
      | true => rfl
      | false => exact ih (i + 1)

theorem windowLoop_eq (probe : Int → Out Bool) (pb : Int → Bool) (hp : ∀ i, probe i = .ok (pb i)) (hi : Int)
    (fuel : Nat) (i : Int) (hf : (hi - i + 1).toNat ≤ fuel) : windowLoop probe hi fuel i = .ok ((span i hi).any pb) := by
  rw [windowLoop_any probe pb hp, List.take_of_length_le (by simpa [span] using hf)]

theorem windowLoop_total (probe : Int → Out Bool) (hp : ∀ i, ∃ b, probe i = .ok b) (hi : Int) (fuel : Nat) (i : Int) :
    ∃ b, windowLoop probe hi fuel i = .ok b :=
  ⟨_, windowLoop_any probe (fun i => match probe i with | .ok b => b | _ => false)
    (fun i => by obtain ⟨b, h⟩ := hp i; rw [h]) hi fuel i⟩

theorem windowLoop_iff (probe : Int → Out Bool) (pb : Int → Bool) (hp : ∀ i, probe i = .ok (pb i)) (hi : Int) :
    ∀ (fuel : Nat) (i : Int), (hi - i + 1).toNat ≤ fuel →
      (windowLoop probe hi fuel i = .ok true ↔ ∃ j : Int, i ≤ j ∧ j ≤ hi ∧ pb j = true) ∧
      (windowLoop probe hi fuel i = .ok true ∨ windowLoop probe hi fuel i = .ok false) := by
  intro fuel i hf
  exact ok_iff id (windowLoop_eq probe pb hp hi fuel i hf) (by decide)
    (by simp only [List.any_eq_true, mem_span, and_assoc])

theorem wrap_toNat (x : Int) (h0 : 0 ≤ x) : (x % (2 ^ 64 : Int)).toNat = x.toNat % 2 ^ 64 := by
  rw [Int.toNat_emod h0 (by decide)]; rfl

theorem wrap_nat (n : Nat) (h : n < 2 ^ 64) : ((n : Int) % (2 ^ 64 : Int)).toNat = n := by
  rw [wrap_toNat _ (Int.natCast_nonneg _), Int.toNat_natCast, Nat.mod_eq_of_lt h]

theorem toU64_nonneg (i : Int) (h : 0 ≤ i) (h2 : i < 2 ^ 64) : toU64 i = i.toNat := by
  unfold toU64; rw [Int.emod_eq_of_lt h h2]

/-- `counter + uint64(k)` -/
theorem wrap_add (c k : Nat) : (((c : Int) + (k : Int)) % (2 ^ 64 : Int)).toNat = (c + k) % 2 ^ 64 := by
  rw [← Int.natCast_add, wrap_toNat _ (Int.natCast_nonneg _), Int.toNat_natCast]

/-- `counter - uint64(k)` where it does not underflow -/
theorem wrap_sub (c k : Nat) (hk : k ≤ c) (hc : c < 2 ^ 64) : (((c : Int) + -(k : Int)) % (2 ^ 64 : Int)).toNat = c - k := by
  rw [← Int.sub_eq_add_neg, ← Int.ofNat_sub hk, wrap_nat _ (Nat.lt_of_le_of_lt (Nat.sub_le c k) hc)]

theorem totpProbe_eq (check : Nat → Out Bool) (n : Nat) (j : Int) :
    totpProbe check n j = check ((((n : Int) + j) % (2 ^ 64 : Int)).toNat) := by
  unfold totpProbe toU64
  rw [← Int.add_emod_emod (n : Int) j]
  obtain ⟨r, hr⟩ := Int.eq_ofNat_of_zero_le (Int.emod_nonneg j (by decide : (2 ^ 64 : Int) ≠ 0))
  rw [hr, Int.toNat_natCast, wrap_add]

theorem hotpProbe_eq (check : Nat → Out Bool) (c : Nat) (hc : c < 2 ^ 64) (j : Int) :
    hotpProbe check c j = if 0 ≤ (c : Int) + j then check ((((c : Int) + j) % (2 ^ 64 : Int)).toNat) else .ok false := by
  unfold hotpProbe
  by_cases hneg : j < 0
  · obtain ⟨k, rfl⟩ : ∃ k : Nat, j = -(k : Int) := ⟨(-j).toNat, by omega⟩
    rw [if_pos hneg, Int.neg_neg, Int.toNat_natCast]
    by_cases hu : c < k
    · rw [if_pos hu, if_neg (by omega)]
    · rw [if_neg hu, if_pos (by omega), wrap_sub c k (by omega) hc]
  · obtain ⟨k, rfl⟩ := Int.eq_ofNat_of_zero_le (Int.not_lt.mp hneg)
    rw [if_neg hneg, if_pos (by omega), Int.toNat_natCast, wrap_add]

theorem hotpProbe_total (check : Nat → Out Bool) (hc : ∀ c, ∃ b, check c = .ok b) (counter : Nat) (i : Int) :
    ∃ b, hotpProbe check counter i = .ok b := by
  unfold hotpProbe
  split
  · split
    · exact ⟨false, rfl⟩
    · exact hc _
  · exact hc _

theorem totpWindow_eq (chk : Nat → Bool) (n s : Nat) :
    windowLoop (totpProbe (fun x => .ok (chk x)) n) (s : Int) (2 * s + 1) (-(s : Int)) =
      .ok ((span (-(s : Int)) s).any fun j => chk ((((n : Int) + j) % (2 ^ 64 : Int)).toNat)) :=
  windowLoop_eq _ _ (fun j => totpProbe_eq _ n j) _ _ _ (by omega)

theorem hotpWindow_eq (chk : Nat → Bool) (c s : Nat) (hc : c < 2 ^ 64) :
    windowLoop (hotpProbe (fun x => .ok (chk x)) c) (s : Int) (2 * s + 1) (-(s : Int)) =
      .ok ((span (-(s : Int)) s).any fun j => decide (0 ≤ (c : Int) + j) && chk ((((c : Int) + j) % (2 ^ 64 : Int)).toNat)) :=
  windowLoop_eq _ _ (fun j => by rw [hotpProbe_eq _ c hc j]; by_cases h : 0 ≤ (c : Int) + j <;> simp [h]) _ _ _ (by omega)

/-- where the whole window lies inside `[0, 2^64)` apart from the cut at 0, offsets and counters correspond -/
theorem window_plain (P : Nat → Prop) (c s : Nat) (hov : c + s < 2 ^ 64) :
    (∃ j : Int, -(s : Int) ≤ j ∧ j ≤ s ∧ 0 ≤ (c : Int) + j ∧ P ((((c : Int) + j) % (2 ^ 64 : Int)).toNat)) ↔
      ∃ c', c - s ≤ c' ∧ c' ≤ c + s ∧ P c' := by
  constructor
  · rintro ⟨j, h1, h2, h0, h3⟩
    obtain ⟨c', hc'⟩ := Int.eq_ofNat_of_zero_le h0
    have hw : c - s ≤ c' ∧ c' ≤ c + s := by omega
    rw [hc', wrap_nat c' (Nat.lt_of_le_of_lt hw.2 hov)] at h3
    exact ⟨c', hw.1, hw.2, h3⟩
  · rintro ⟨c', h1, h2, h3⟩
    refine ⟨(c' : Int) - c, by omega, by omega, by omega, ?_⟩
    rwa [Int.add_comm, Int.sub_add_cancel, wrap_nat c' (Nat.lt_of_le_of_lt h2 hov)]

end OtpVerif.Lemmas

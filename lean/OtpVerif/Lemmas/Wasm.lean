/-
The js/wasm side piece by piece: each part of the second implementation and of the binding (`Model/Wasm.lean`) equals
the native part it re-implements.  `Props/C20.lean` puts the pieces together.
-/
import OtpVerif.Model.Wasm
import OtpVerif.Lemmas.Numeral
import OtpVerif.Lemmas.Derive
import OtpVerif.Lemmas.Window

namespace OtpVerif.Lemmas
open OtpVerif OtpVerif.Model OtpVerif.Model.Wasm OtpVerif.Std.Url

/-- both the js/wasm formatter and the native ones put the last digit of `v` behind the rendering of `v / 10` in one
place less -/
theorem formatPad_eq : ∀ (d v : Nat), 1 ≤ d → v < 10 ^ d → formatPad v d = zeroPad d v := by
  intro d
  induction d with
  | zero => intro v h; omega
  | succ d ih =>
    intro v _ hv
    rw [zeroPad_succ, formatPad]
    by_cases hlt : v < 10
    · rw [itoa_small v hlt, Nat.div_eq_of_lt hlt, zeroPad_zero]; rfl
    · have hd : 1 ≤ d := Nat.pos_of_ne_zero (by rintro rfl; omega)
      have hv' : v / 10 < 10 ^ d := Nat.div_lt_of_lt_mul (by rw [Nat.mul_comm, ← Nat.pow_succ]; exact hv)
      rw [← ih (v / 10) hd hv', formatPad, itoa_snoc v hlt]
      simp only [List.length_append, List.length_singleton, Nat.add_sub_add_right, List.append_assoc]

/-- `result *= 10` in uint64 does not wrap up to 10^19 < 2^64 -/
theorem pow10Wasm_eq : ∀ d, d ≤ 19 → pow10Wasm d = 10 ^ d
  | 0, _ => rfl
  | d + 1, h => by
    have : 10 ^ (d + 1) ≤ 10 ^ 19 := Nat.pow_le_pow_right (by decide) h
    rw [pow10Wasm, pow10Wasm_eq d (by omega), ← Nat.pow_succ, Nat.mod_eq_of_lt (by omega)]

/-- the same two refusals in the same order, and behind them the same code -/
theorem deriveWasm_eq (O : HashOracle) (k : Bytes) (c d a : Nat) : deriveWasm O k c d a = deriveRFC4226 O k c d a := by
  rw [deriveRFC4226_eq]
  unfold deriveWasm
  rw [mod10_length]
  by_cases ha : 3 ≤ a
  · rw [if_pos ha, if_pos ha]
  by_cases hd : d < 1 ∨ 10 < d
  · rw [if_neg ha, if_neg ha, if_pos hd, if_pos (by omega)]
  rw [if_neg ha, if_neg ha, if_neg hd, if_neg (by omega)]
  have hd1 : 1 ≤ d := by omega
  have hd2 : d ≤ 10 := by omega
  have hm : (if 1 ≤ d ∧ d ≤ 9 then Gen.mod10[d]? else some (pow10Wasm d)) = some (10 ^ d) := by
    by_cases h9 : 1 ≤ d ∧ d ≤ 9
    · rw [if_pos h9, mod10_get d hd1 hd2]
    · rw [if_neg h9, pow10Wasm_eq d (by omega)]
  rw [hm]
  simp only
  rw [truncate_hmac O a k _ (Nat.lt_of_not_le ha)]
  simp only
  unfold Spec.hotp
  rw [formatPad_eq d _ hd1 (Nat.mod_lt _ (Nat.pow_pos (by decide)))]

theorem validateWasm_eq (O : HashOracle) (code k : Bytes) (c d a : Nat) :
    validateWasm O code k c d a = validate code d (deriveWasm O k c d a) := by
  -- `validateWasm` compares the lengths in `Nat`, `validate` in `Int`; the rest is the same text
  simp only [validateWasm, validate, ne_eq, Int.natCast_inj]
  rfl

theorem validateWasm_native (O : HashOracle) (code k : Bytes) (c d a : Nat) :
    validateWasm O code k c d a = validateRFC4226 O code k c d a := by
  rw [validateWasm_eq, deriveWasm_eq]; rfl

/-- the binding's HOTP loop body (`int64` sum, skipped when negative) is the native one (`uint64` difference,
skipped on underflow; wrapping sum), whatever the check: `hotpProbe_eq` puts the native body into the binding's form -/
theorem wasmHotpProbe_eq (check : Nat → Out Bool) (c : Nat) (hc : c < 2 ^ 64) :
    wasmHotpProbe check (c : Int) = hotpProbe check c := by
  funext i
  rw [hotpProbe_eq check c hc i, wasmHotpProbe, toU64]
  simp only [← Int.not_le, ite_not]

theorem parseStringArg_str {s : Bytes} (h : s ≠ []) : parseStringArg (.str s) = some s := by
  unfold parseStringArg; cases s with | nil => exact absurd rfl h | cons _ _ => rfl

theorem parseIntArg_nat (n : Nat) : parseIntArg (.int (n : Int)) = some (n : Int) := by
  unfold parseIntArg; simp only; rw [if_neg (by omega)]

/-- the binding returns the loop's boolean, the library wraps it into a verdict: the same answer, seen from JavaScript -/
theorem js_of_loop (l : Out Bool) :
    (match l with | .ok b => JsRes.bool b | _ => .error) =
      (match (match l with
          | .ok true => (.ok (true, none) : Out Verdict)
          | .ok false => .ok (false, some .invalidCode)
          | .err e => .err e
          | .panic => .panic) with
       | .ok (b, _) => .bool b
       | _ => .error) := by
  cases l with
  | ok b => cases b <;> rfl
  | err e => rfl
  | panic => rfl

/-- the generation step both `generateHOTP` and `generateTOTP` of the binding share is the native `GenerateHOTP` at that
counter (which ignores period and skew) -/
theorem generateOTP_eq (O : HashOracle) (secret : Bytes) (c d a per sk : Nat) :
    generateOTP O secret c d a =
      (match generateHOTP O secret c (some ⟨d, per, sk, a⟩) with
       | .ok code => .str code
       | _ => .error) := by
  unfold generateOTP generateHOTP
  simp only [resolveHOTP]
  cases decodeSecret secret with
  | ok key => simp only; rw [deriveWasm_eq]; rfl
  | err e => rfl
  | panic => rfl

/-- same per-counter check (`validateWasm_native`), same loop body (`wasmHotpProbe_eq`), same loop -/
theorem jsValidateHOTP_eq (O : HashOracle) (secret code key d a : Bytes) (c s : Nat)
    (hs : decodeSecret secret = .ok key) (hne : secret ≠ [] ∧ code ≠ [] ∧ d ≠ [] ∧ a ≠ [])
    (hc : c < 2 ^ 64) (hsk : s ≤ 10) :
    jsValidateHOTP O [.str secret, .str code, .int c, .str d, .str a, .int s] =
      (match validateHOTP O secret code c (some ⟨Rest.digitsFromStr d, 0, s, Rest.algoFromStr a⟩) with
       | .ok (b, _) => .bool b
       | _ => .error) := by
  unfold jsValidateHOTP validateHOTP
  simp only [parseStringArg_str hne.1, parseStringArg_str hne.2.1, parseStringArg_str hne.2.2.1,
    parseStringArg_str hne.2.2.2, parseIntArg_nat, hs, resolveHOTP]
  rw [if_neg (by omega), if_neg (by omega), wasmHotpProbe_eq _ c hc, Int.toNat_natCast]
  simp only [validateWasm_native]
  exact js_of_loop _

end OtpVerif.Lemmas

/-
`splitOn` (`strings.Split`) and `splitFirst` (`strings.SplitN(·, ·, 2)`) at one byte, characterised: the first part is
the text before the first separator, the rest is what follows it (for `splitOn`: the split of what follows it).
-/
import OtpVerif.Std.Strings

namespace OtpVerif.Lemmas
open OtpVerif OtpVerif.Std

theorem splitOn_cons_self (sep : UInt8) (rest : Bytes) : splitOn sep (sep :: rest) = [] :: splitOn sep rest := by
  rw [splitOn, if_pos rfl]

theorem splitOn_prepend {sep : UInt8} {t q : Bytes} {qs : List Bytes} (ht : splitOn sep t = q :: qs) :
    ∀ {p : Bytes}, sep ∉ p → splitOn sep (p ++ t) = (p ++ q) :: qs
  | [], _ => ht
  | x :: xs, h => by
    rw [List.cons_append, splitOn, if_neg (fun e => h (by simp [e])), splitOn_prepend ht (fun e => h (by simp [e]))]
    rfl

theorem splitOn_single {sep : UInt8} {s : Bytes} (h : sep ∉ s) : splitOn sep s = [s] := by
  simpa using splitOn_prepend (t := []) rfl h

theorem splitOn_append {sep : UInt8} {p : Bytes} (rest : Bytes) (h : sep ∉ p) :
    splitOn sep (p ++ sep :: rest) = p :: splitOn sep rest := by
  simpa using splitOn_prepend (splitOn_cons_self sep rest) h

theorem splitOn_eq_cons {sep : UInt8} {s p : Bytes} {ps : List Bytes} : splitOn sep s = p :: ps ↔
    sep ∉ p ∧ (ps = [] ∧ s = p ∨ ∃ rest, s = p ++ sep :: rest ∧ splitOn sep rest = ps) := by
  constructor
  · intro h
    by_cases hs : sep ∈ s
    · obtain ⟨a, rest, rfl, ha⟩ := List.eq_append_cons_of_mem hs
      rw [splitOn_append rest ha] at h
      cases h
      exact ⟨ha, .inr ⟨rest, rfl, rfl⟩⟩
    · rw [splitOn_single hs] at h
      cases h
      exact ⟨hs, .inl ⟨rfl, rfl⟩⟩
  · rintro ⟨hp, ⟨rfl, rfl⟩ | ⟨rest, rfl, rfl⟩⟩
    · exact splitOn_single hp
    · exact splitOn_append rest hp

theorem splitFirst_prepend {sep : UInt8} (t : Bytes) :
    ∀ {p : Bytes}, sep ∉ p → splitFirst sep (p ++ t) = (splitFirst sep t).map fun r => (p ++ r.1, r.2)
  | [], _ => Option.map_id'.symm
  | x :: xs, h => by
    rw [List.cons_append, splitFirst, if_neg (fun e => h (by simp [e])), splitFirst_prepend t (fun e => h (by simp [e])),
      Option.map_map]
    rfl

theorem splitFirst_append (sep : UInt8) (a b : Bytes) (h : sep ∉ a) : splitFirst sep (a ++ sep :: b) = some (a, b) := by
  rw [splitFirst_prepend _ h, splitFirst, if_pos rfl, Option.map_some, List.append_nil]

end OtpVerif.Lemmas

/-
`deriveRFC4226` on every argument: what the regenerated tables it looks up contain, then the two range checks in their
order and behind them the RFC 4226 value.
-/
import OtpVerif.Model.Derive
import OtpVerif.Spec.Rfc
import OtpVerif.Lemmas.Trunc
import OtpVerif.Lemmas.Numeral

namespace OtpVerif.Lemmas
open OtpVerif OtpVerif.Model

theorem mod10_get (d : Nat) (h1 : 1 ≤ d) (h2 : d ≤ 10) : Gen.mod10[d]? = some (10 ^ d) :=
  (by decide : ∀ d, d ≤ 10 → 1 ≤ d → Gen.mod10[d]? = some (10 ^ d)) d h2 h1

theorem mod10_length : Gen.mod10.length = 11 := by decide
theorem nHash_eq : Gen.nHash = 3 := by decide

theorem hashIdOf_eq (a : Nat) (h : a < 3) : hashIdOf a = some a :=
  (by decide : ∀ a, a < 3 → hashIdOf a = some a) a h

/-- table lookup, `truncate` and the two formatters never fail behind the two range checks -/
theorem deriveRFC4226_eq (O : HashOracle) (k : Bytes) (c d a : Nat) :
    deriveRFC4226 O k c d a =
      if 3 ≤ a then .err .unsupportedAlgorithm
      else if d < 1 ∨ 10 < d then .err .invalidCodeLength
      else .ok (Spec.hotp O.hmac a k c d) := by
  unfold deriveRFC4226
  rw [nHash_eq, mod10_length]
  by_cases ha : 3 ≤ a
  · rw [if_pos ha, if_pos ha]
  by_cases hd : d < 1 ∨ 10 < d
  · rw [if_neg ha, if_neg ha, if_pos hd, if_pos (by omega)]
  rw [if_neg ha, if_neg ha, if_neg hd, if_neg (by omega), hashIdOf_eq a (by omega), mod10_get d (by omega) (by omega)]
  simp only [truncate_hmac O a k _ (by omega), Spec.hotp]
  by_cases h8 : d ≤ 8
  · rw [if_pos h8, shortDigit_eq _ _ h8]
  · rw [if_neg h8, longDigit_eq]

theorem derive_unsupported (O : HashOracle) (k : Bytes) (c d a : Nat) (h : d = 0 ∨ 10 < d ∨ 3 ≤ a) :
    ∃ e, deriveRFC4226 O k c d a = .err e := by
  rw [deriveRFC4226_eq]
  split
  · exact ⟨_, rfl⟩
  · rw [if_pos (by omega)]; exact ⟨_, rfl⟩

theorem deriveRFC4226_no_panic (O : HashOracle) (k : Bytes) (c d a : Nat) : deriveRFC4226 O k c d a ≠ .panic := by
  rw [deriveRFC4226_eq]
  split
  · nofun
  · split <;> nofun

theorem hotp_shape (O : HashOracle) (a : Nat) (k : Bytes) (c d : Nat) :
    (Spec.hotp O.hmac a k c d).length = d ∧ (Spec.hotp O.hmac a k c d).all isDigitChar = true := by
  unfold Spec.hotp
  exact ⟨zeroPad_length _ _, zeroPad_all_digits _ _⟩

end OtpVerif.Lemmas

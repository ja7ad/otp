/-
The library's suite-string parser (model) against the Spec reader `denote`, layer by layer; soundness, completeness on the
representable sub-grammar and the exact language are three readings of `parseRawSuite_iff`.  The two readers differ in two
places only: the library records no challenge format other than QN08 / QN10 (it takes `QA…`, `QH…` and odd `QN…` tokens
for a challenge without format, which the final `Validate` refuses), and it insists on a unit for the time step.
-/
import OtpVerif.Model.Suite
import OtpVerif.Spec.SuiteGrammar
import OtpVerif.Spec.Rfc
import OtpVerif.Lemmas.Ascii
import OtpVerif.Lemmas.Strings

namespace OtpVerif.Lemmas
open OtpVerif OtpVerif.Std OtpVerif.Model

/-- a data-input token the library's parser can represent: any token the Spec classifies, except challenge formats other
than QN08 / QN10 and a time step without a unit -/
def representableTok (tok : Bytes) : Bool :=
  match Spec.classify tok with
  | some (.q f) => f == 1 || f == 2
  | some (.t _) => match (tok.drop 1).getLast? with
                   | some u => u == 83 || u == 77 || u == 72
                   | none => false
  | _ => true

def representable (raw : Bytes) : Prop :=
  ∀ v c d, splitOn 58 raw = [v, c, d] → (splitOn 45 d).all representableTok = true

theorem representable_iff {raw v c d : Bytes} (hs : splitOn 58 raw = [v, c, d]) :
    representable raw ↔ (splitOn 45 d).all representableTok = true := by
  simp [representable, hs]

/-- both `Validate` methods are chains `if c₁ then some e₁ else if c₂ … else none` -/
theorem ite_some_eq_none {α} {c : Prop} [Decidable c] {e : α} {r : Option α} :
    (if c then some e else r) = none ↔ ¬c ∧ r = none := by
  split <;> simp [*]

theorem ite_err_eq_ok {α} {c : Prop} [Decidable c] {e : Err} {x : Out α} {a : α} :
    (if c then .err e else x) = .ok a ↔ ¬c ∧ x = .ok a := by
  split <;> simp [*]

theorem suiteValidate_iff (cfg : SuiteConfig) : suiteValidate cfg = none ↔ Spec.usable cfg := by
  simp only [suiteValidate, ite_some_eq_none, Spec.usable]
  -- both sides are conjunctions over the same fields; they differ in how ranges and `Bool` tests are spelt
  grind

theorem parseSuiteNumber_eq (s : Bytes) : parseSuiteNumber s = Spec.numeral s := by
  unfold parseSuiteNumber Spec.numeral
  by_cases hl : s.length = 0 ∨ s.length > 3
  · rw [if_pos hl, if_neg (by omega)]
  · rw [if_neg hl]
    by_cases hd : s.all isDigitChar = true
    · rw [if_pos hd, if_pos ⟨by omega, by omega, hd⟩]
    · rw [if_neg hd, if_neg (fun h => hd h.2.2)]

theorem numeral_length {s : Bytes} {n : Nat} (h : Spec.numeral s = some n) : 1 ≤ s.length := by
  unfold Spec.numeral at h
  split at h
  · omega
  · cases h

theorem parseTimeGranularity_eq (g : Bytes) : parseTimeGranularity g =
    match g.getLast? with
    | none => none
    | some u =>
      if u = 83 then Spec.numeral g.dropLast else if u = 77 then (Spec.numeral g.dropLast).map (· * 60)
      else if u = 72 then (Spec.numeral g.dropLast).map (· * 3600) else none := by
  unfold parseTimeGranularity
  rw [parseSuiteNumber_eq]
  cases hl : g.getLast? with
  | none => simp
  | some u =>
    cases hn : Spec.numeral g.dropLast with
    | none => simp
    | some n =>
      have := numeral_length hn
      rw [List.length_dropLast] at this
      rw [if_neg (by omega)]
      rfl

theorem hashOfName_cases {u : Bytes} {h : Nat} (hh : Spec.hashOfName u = some h) :
    (u = sSHA1 ∧ h = 0) ∨ (u = sSHA256 ∧ h = 1) ∨ (u = sSHA512 ∧ h = 2) := by
  unfold Spec.hashOfName at hh
  by_cases h1 : u = [83, 72, 65, 49]
  · rw [if_pos h1] at hh; exact .inl ⟨h1, (Option.some.inj hh).symm⟩
  by_cases h2 : u = [83, 72, 65, 50, 53, 54]
  · rw [if_neg h1, if_pos h2] at hh; exact .inr (.inl ⟨h2, (Option.some.inj hh).symm⟩)
  by_cases h3 : u = [83, 72, 65, 53, 49, 50]
  · rw [if_neg h1, if_neg h2, if_pos h3] at hh; exact .inr (.inr ⟨h3, (Option.some.inj hh).symm⟩)
  · rw [if_neg h1, if_neg h2, if_neg h3] at hh; cases hh

theorem parseCrypto_iff (crypto : Bytes) (h d : Nat) : parseCryptoFunction crypto = some (h, d) ↔
    ∃ w0 w1 w2, splitOn 45 crypto = [w0, w1, w2] ∧ toUpperAscii w0 = [72, 79, 84, 80] ∧
      Spec.hashOfName (toUpperAscii w1) = some h ∧ Spec.numeral w2 = some d := by
  unfold parseCryptoFunction sSHA1 sSHA256 sSHA512
  constructor
  · intro hp
    cases hpre : hasPrefix sHOTP_SHA (toUpperAscii crypto) with
    | false => rw [hpre] at hp; cases hp
    | true =>
    rw [hpre, if_neg (by decide)] at hp
    -- crypto = c0 c1 c2 c3 c4 ++ rest with upper-case "HOTP-": c4 is the first '-'
    obtain ⟨t, ht⟩ := List.isPrefixOf_iff_prefix.mp hpre
    replace ht := ht.symm
    simp only [sHOTP_SHA, toUpperAscii, List.cons_append, List.map_eq_cons_iff] at ht
    obtain ⟨c0, _, rfl, e0, c1, _, rfl, e1, c2, _, rfl, e2, c3, _, rfl, e3, c4, rest, rfl, e4, -⟩ := ht
    obtain rfl : c4 = 45 := (upperAscii_eq_iff (by decide)).mp e4
    have hw0 : toUpperAscii [c0, c1, c2, c3] = [72, 79, 84, 80] := by
      simp only [toUpperAscii, List.map_cons, List.map_nil, e0, e1, e2, e3]
    have hsp := splitOn_append (sep := 45) rest (mt (mem_toUpperAscii (by decide)).mpr (by rw [hw0]; decide))
    simp only [List.drop_succ_cons, List.drop_zero] at hp
    split at hp
    · rename_i w1 w2 hs
      split at hp
      · rename_i hh hn
        cases hp
        exact ⟨_, w1, w2, hsp.trans (congrArg _ hs), hw0, hh, parseSuiteNumber_eq _ ▸ hn⟩
      · cases hp
    · cases hp
  · rintro ⟨w0, w1, w2, hs, hw0, hw1, hw2⟩
    obtain ⟨-, ⟨hh, -⟩ | ⟨r1, rfl, hs1⟩⟩ := splitOn_eq_cons.mp hs
    · cases hh
    obtain ⟨-, ⟨hh, -⟩ | ⟨r2, rfl, -⟩⟩ := splitOn_eq_cons.mp hs1
    · cases hh
    simp only [toUpperAscii, List.map_eq_cons_iff, List.map_eq_nil_iff] at hw0
    obtain ⟨a, _, rfl, ea, b, _, rfl, eb, c, _, rfl, ec, e, _, rfl, ee, rfl⟩ := hw0
    have hpre : hasPrefix sHOTP_SHA (toUpperAscii ([a, b, c, e] ++ 45 :: (w1 ++ 45 :: r2))) = true := by
      simp only [toUpperAscii, List.map_append, List.map_cons, ea, eb, ec, ee]
      rcases hashOfName_cases hw1 with ⟨e, _⟩ | ⟨e, _⟩ | ⟨e, _⟩ <;> rw [toUpperAscii] at e <;> rw [e] <;> rfl
    rw [hpre, if_neg (by decide)]
    simp only [List.cons_append, List.nil_append, List.drop_succ_cons, List.drop_zero, hs1]
    unfold Spec.hashOfName at hw1
    rw [parseSuiteNumber_eq, hw2, hw1]

theorem parseToken_eq {tok : Bytes} {c : UInt8} {x : Bytes} (hU : toUpperAscii tok = c :: x) (cfg : SuiteConfig) (last : Nat) :
    parseToken cfg last tok =
      (tokenEffect cfg tok (c :: x)).bind fun cfg' => if tokenRank c ≤ last then none else some (cfg', tokenRank c) := by
  unfold parseToken
  rw [hU]
  cases tokenEffect cfg tok (c :: x) <;> rfl

theorem parseToken_some {tok : Bytes} {c : UInt8} {x : Bytes} (hU : toUpperAscii tok = c :: x) {cfg : SuiteConfig} {last : Nat}
    {p : SuiteConfig × Nat} (h : parseToken cfg last tok = some p) :
    ∃ cfg', tokenEffect cfg tok (c :: x) = some cfg' ∧ last < tokenRank c ∧ p = (cfg', tokenRank c) := by
  rw [parseToken_eq hU, Option.bind_eq_some_iff] at h
  obtain ⟨cfg', he, h⟩ := h
  split at h
  · cases h
  · exact ⟨cfg', he, by omega, (Option.some.inj h).symm⟩

section tokenEffect
variable (cfg : SuiteConfig) (tok x : Bytes)

theorem tokenEffect_C : tokenEffect cfg tok (67 :: x) = if x = [] then some { cfg with incC := true } else none := by
  simp [tokenEffect, hasPrefix, List.isPrefixOf]

theorem tokenEffect_Q (f : UInt8) (y : Bytes) : tokenEffect cfg tok (81 :: f :: y) =
    if f = 78 then
      if y.length = 2 then
        if y = [48, 56] then some { cfg with incQ := true, challenge := 1 }
        else if y = [49, 48] then some { cfg with incQ := true, challenge := 2 } else none
      else some { cfg with incQ := true }
    else if f = 65 then some { cfg with incQ := true } else if f = 72 then some { cfg with incQ := true } else none := by
  simp [tokenEffect, hasPrefix, List.isPrefixOf, eq_comm (a := f)]

theorem tokenEffect_QN (l1 l2 : UInt8) : tokenEffect cfg tok [81, 78, l1, l2] =
    if l1 = 48 ∧ l2 = 56 then some { cfg with incQ := true, challenge := 1 }
    else if l1 = 49 ∧ l2 = 48 then some { cfg with incQ := true, challenge := 2 } else none := by
  simp [tokenEffect_Q]

theorem tokenEffect_P : tokenEffect cfg tok (80 :: x) =
    (Spec.hashOfName x).map fun h => { cfg with incP := true, pwHash := h + 1 } := by
  unfold tokenEffect Spec.hashOfName sSHA1 sSHA256 sSHA512
  by_cases h1 : x = [83, 72, 65, 49]
  · subst h1; rfl
  by_cases h2 : x = [83, 72, 65, 50, 53, 54]
  · subst h2; rfl
  by_cases h3 : x = [83, 72, 65, 53, 49, 50]
  · subst h3; rfl
  simp [h1, h2, h3, hasPrefix, List.isPrefixOf]

theorem tokenEffect_S : tokenEffect cfg tok (83 :: x) =
    if x = [] ∨ x.length = 3 ∧ x.all isDigitChar = true then some { cfg with incS := true } else none := by
  unfold tokenEffect
  by_cases h0 : x = []
  · subst h0; rfl
  by_cases h3 : x.length = 3
  · by_cases hd : x.all isDigitChar = true <;>
      simp [h0, h3, hd, hasPrefix, List.isPrefixOf, parseSuiteNumber_eq, Spec.numeral]
  · simp [h0, h3, hasPrefix, List.isPrefixOf]

theorem tokenEffect_T : tokenEffect cfg tok (84 :: x) =
    (parseTimeGranularity (tok.drop 1)).map fun secs => { cfg with incT := true, timeStep := secs } := by
  simp only [tokenEffect, hasPrefix, List.isPrefixOf]
  cases parseTimeGranularity (tok.drop 1) <;> rfl

end tokenEffect

theorem tokenEffect_Q_some {cfg cfg' : SuiteConfig} {tok y : Bytes} {f : UInt8}
    (h : tokenEffect cfg tok (81 :: f :: y) = some cfg') : cfg' = { cfg with incQ := true } ∨ f = 78 ∧ y.length = 2 := by
  rw [tokenEffect_Q] at h
  -- every entry of the table outside `f = 78`, `y.length = 2` is `none` or the challenge without format
  grind

theorem classify_S {tok x : Bytes} (hU : toUpperAscii tok = 83 :: x) : Spec.classify tok =
    if x = [] ∨ x.length = 3 ∧ x.all isDigitChar = true then some .s else none := by
  unfold Spec.classify; rw [hU]
  match x with
  | [] | [_] | [_, _] => rfl
  | [d1, d2, d3] => exact ite_congr (by simp) (fun _ => rfl) (fun _ => rfl)
  | _ :: _ :: _ :: _ :: _ => exact (if_neg (by simp)).symm

theorem classify_Q_other {tok y : Bytes} {f : UInt8} (hU : toUpperAscii tok = 81 :: f :: y) (hN : ¬(f = 78 ∧ y.length = 2)) :
    Spec.classify tok = none ∨ representableTok tok = false := by
  rw [representableTok]
  unfold Spec.classify; rw [hU]
  match y with
  | [] | [_] | _ :: _ :: _ :: _ => exact .inl rfl
  | [l1, l2] =>
    simp only [if_neg (fun h => hN ⟨h, rfl⟩ : f ≠ 78)]
    split
    · next b o hb ho =>
      -- the format number is 3 (`A`) or 5 (`H`) plus 0 or 1
      have : 3 ≤ b + o := by grind
      exact .inr (by simp; omega)
    · exact .inl rfl

/-- the P and Q clauses of `Spec.usable`: the part of what the final `Validate` asks that is an invariant of the token loop -/
def cfgGood (cfg : SuiteConfig) : Prop :=
  (cfg.incP = true → cfg.pwHash ≠ 0) ∧ (cfg.incQ = true → cfg.challenge ≠ 0)

attribute [local simp] tokenRank Spec.applyTok Spec.Tok.rank in
/-- On a classified, representable token the library's step and the Spec's agree.  On any other token the library refuses,
or takes it for a challenge whose format it does not record (`QA…`, `QH…`, `QN` with a length other than 4).  The `cfgGood`
conjunct is a fact about `Spec.classify` and `Spec.applyTok` alone; it stands here because this is where `Spec.classify` is
gone through letter by letter. -/
theorem parseToken_cases (cfg : SuiteConfig) (last : Nat) (tok : Bytes) :
    (∃ t, Spec.classify tok = some t ∧ representableTok tok = true ∧ (cfgGood cfg → cfgGood (Spec.applyTok cfg t)) ∧
      parseToken cfg last tok = if t.rank ≤ last then none else some (Spec.applyTok cfg t, t.rank)) ∨
    ((Spec.classify tok = none ∨ representableTok tok = false) ∧
      ∀ p, parseToken cfg last tok = some p → last < 2 ∧ p = ({ cfg with incQ := true }, 2)) := by
  -- both readers dispatch on the first letter of `toUpperAscii tok`; within one letter each is an explicit function of the rest
  have hc := Spec.classify.eq_def tok
  cases hU : toUpperAscii tok with
  | nil =>
    rw [hU] at hc
    exact .inr ⟨.inl hc, fun p hp => by simp [parseToken, hU] at hp⟩
  | cons c x =>
    rw [hU] at hc
    by_cases h67 : c = 67
    · subst h67
      rw [parseToken_eq hU, tokenEffect_C]
      cases x with
      | nil => exact .inl ⟨_, hc, by rw [representableTok, hc]; rfl, id, rfl⟩
      | cons => exact .inr ⟨.inl hc, fun _ hp => by cases hp⟩
    by_cases h81 : c = 81
    · subst h81
      cases x with
      | nil => rw [parseToken_eq hU]; exact .inr ⟨.inl hc, fun _ hp => by cases hp⟩
      | cons f y =>
        by_cases hN : f = 78 ∧ y.length = 2
        · -- `QN` and two length characters: the one shape where the library records a format
          obtain ⟨rfl, hl⟩ := hN
          obtain ⟨l1, l2, rfl⟩ : ∃ l1 l2, y = [l1, l2] := match y, hl with | [l1, l2], _ => ⟨l1, l2, rfl⟩
          rw [parseToken_eq hU, tokenEffect_QN]
          simp only [↓reduceIte] at hc
          by_cases o : (l1 = 48 ∧ l2 = 56) ∨ (l1 = 49 ∧ l2 = 48)
          · rcases o with ⟨rfl, rfl⟩ | ⟨rfl, rfl⟩ <;>
              exact .inl ⟨_, hc, by rw [representableTok, hc]; rfl, fun g => ⟨g.1, fun _ => by simp⟩, rfl⟩
          · simp only [not_or] at o
            rw [if_neg o.1, if_neg o.2] at hc ⊢
            exact .inr ⟨.inl hc, fun _ hp => by cases hp⟩
        · refine .inr ⟨classify_Q_other hU hN, fun p hp => ?_⟩
          obtain ⟨cfg', he, hl, rfl⟩ := parseToken_some hU hp
          exact ⟨hl, by rw [(tokenEffect_Q_some he).resolve_right hN]; rfl⟩
    by_cases h80 : c = 80
    · subst h80
      rw [parseToken_eq hU, tokenEffect_P]
      simp only at hc
      cases hh : Spec.hashOfName x with
      | none => rw [hh] at hc; exact .inr ⟨.inl hc, fun _ hp => by cases hp⟩
      | some h =>
        rw [hh] at hc
        exact .inl ⟨_, hc, by rw [representableTok, hc]; rfl, fun g => ⟨fun _ => by simp; omega, g.2⟩, rfl⟩
    by_cases h83 : c = 83
    · subst h83
      replace hc := classify_S hU
      rw [parseToken_eq hU, tokenEffect_S]
      by_cases hx : x = [] ∨ x.length = 3 ∧ x.all isDigitChar = true
      · rw [if_pos hx] at hc ⊢
        exact .inl ⟨_, hc, by rw [representableTok, hc], id, rfl⟩
      · rw [if_neg hx] at hc ⊢
        exact .inr ⟨.inl hc, fun _ hp => by cases hp⟩
    by_cases h84 : c = 84
    · subst h84
      rw [parseToken_eq hU, tokenEffect_T, parseTimeGranularity_eq]
      simp only at hc
      cases hl : (tok.drop 1).getLast? with
      | none => rw [hl] at hc; exact .inr ⟨.inl hc, fun _ hp => by cases hp⟩
      | some u =>
        rw [hl] at hc
        dsimp only at hc ⊢
        by_cases hu : u = 83 ∨ u = 77 ∨ u = 72
        · cases hn : Spec.numeral (tok.drop 1).dropLast with
          | none =>
            rw [hn] at hc
            rcases hu with rfl | rfl | rfl <;> exact .inr ⟨.inl hc, fun _ hp => by cases hp⟩
          | some n =>
            rw [hn] at hc
            rcases hu with rfl | rfl | rfl <;>
              exact .inl ⟨_, hc, by rw [representableTok, hc, hl]; rfl, id, rfl⟩
        · simp only [not_or] at hu
          rw [if_neg hu.1, if_neg hu.2.1, if_neg hu.2.2] at hc ⊢
          refine .inr ⟨?_, fun _ hp => by cases hp⟩
          cases hn : Spec.numeral (tok.drop 1) with
          | none => rw [hn] at hc; exact .inl hc
          | some n => rw [hn] at hc; exact .inr (by rw [representableTok, hc, hl]; simp [hu])
    · -- a first letter outside "CQPST" has rank 0
      refine .inr ⟨.inl ?_, fun p hp => ?_⟩
      · simp [h67, h81, h80, h83, h84] at hc; exact hc
      · obtain ⟨_, -, hl, -⟩ := parseToken_some hU hp
        rw [tokenRank, if_neg h67, if_neg h81, if_neg h80, if_neg h83, if_neg h84] at hl
        omega

theorem applyTok_hash_digits (cfg : SuiteConfig) (t : Spec.Tok) :
    (Spec.applyTok cfg t).hash = cfg.hash ∧ (Spec.applyTok cfg t).digits = cfg.digits := by
  cases t <;> exact ⟨rfl, rfl⟩

theorem applyTok_keepsQ (cfg : SuiteConfig) {t : Spec.Tok} (h : t.rank ≠ 2) :
    (Spec.applyTok cfg t).incQ = cfg.incQ ∧ (Spec.applyTok cfg t).challenge = cfg.challenge := by
  cases t <;> first | exact ⟨rfl, rfl⟩ | exact absurd rfl h

theorem parseTokens_keepsQ : ∀ (toks : List Bytes) (cfg cfg' : SuiteConfig) (last : Nat),
    parseTokens cfg last toks = some cfg' → 2 ≤ last → cfg'.incQ = cfg.incQ ∧ cfg'.challenge = cfg.challenge
  | [], cfg, cfg', last, h, _ => by cases h; exact ⟨rfl, rfl⟩
  | tok :: rest, cfg, cfg', last, h, hl => by
    unfold parseTokens at h
    rcases parseToken_cases cfg last tok with ⟨t, -, -, -, hp⟩ | ⟨-, hp⟩
    · by_cases hr : t.rank ≤ last
      · rw [hp, if_pos hr] at h; cases h
      · rw [hp, if_neg hr] at h
        have := parseTokens_keepsQ rest _ _ _ h (by omega)
        have k := applyTok_keepsQ cfg (t := t) (by omega)
        exact ⟨this.1.trans k.1, this.2.trans k.2⟩
    · cases hq : parseToken cfg last tok with
      | none => rw [hq] at h; cases h
      | some p => have := (hp p hq).1; omega

/-- A token the Spec does not read, or reads as something a configuration
cannot represent, either stops the library's loop or leaves a selected challenge without format; no later token
can supply one (`parseTokens_keepsQ`), and the final `Validate` refuses that. -/
theorem parseTokens_iff : ∀ (toks : List Bytes) (cfg cfg' : SuiteConfig) (last : Nat),
    (last < 2 → cfg.challenge = 0) → (cfg'.incQ = true → cfg'.challenge ≠ 0) →
    (parseTokens cfg last toks = some cfg' ↔
      Spec.denoteTokens cfg last toks = some cfg' ∧ toks.all representableTok = true)
  | [], cfg, cfg', last, _, _ => by simp [parseTokens, Spec.denoteTokens]
  | tok :: rest, cfg, cfg', last, h0, hg => by
    unfold parseTokens Spec.denoteTokens
    rw [List.all_cons, Bool.and_eq_true]
    rcases parseToken_cases cfg last tok with ⟨t, hc, hrep, -, hp⟩ | ⟨hbad, hp⟩
    · rw [hc, hp, hrep]
      by_cases hr : t.rank ≤ last
      · simp [hr]
      · simp only [hr, if_false, true_and]
        refine parseTokens_iff rest _ _ _ (fun h2 => ?_) hg
        rw [(applyTok_keepsQ cfg (by omega)).2]; exact h0 (by omega)
    · constructor
      · intro h
        cases hq : parseToken cfg last tok with
        | none => rw [hq] at h; cases h
        | some p =>
          obtain ⟨hl, rfl⟩ := hp p hq
          rw [hq] at h
          have k := parseTokens_keepsQ rest _ _ _ h (by omega)
          exact absurd (k.2.trans (h0 hl)) (hg k.1)
      · rintro ⟨hd, hr, -⟩
        rcases hbad with hn | hf
        · rw [hn] at hd; cases hd
        · rw [hf] at hr; cases hr

theorem denoteTokens_good : ∀ (toks : List Bytes) (cfg cfg' : SuiteConfig) (last : Nat),
    Spec.denoteTokens cfg last toks = some cfg' → toks.all representableTok = true → cfgGood cfg →
    cfg'.hash = cfg.hash ∧ cfg'.digits = cfg.digits ∧ cfgGood cfg'
  | [], cfg, cfg', last, h, _, hg => by cases h; exact ⟨rfl, rfl, hg⟩
  | tok :: rest, cfg, cfg', last, h, hall, hg => by
    unfold Spec.denoteTokens at h
    rw [List.all_cons, Bool.and_eq_true] at hall
    rcases parseToken_cases cfg last tok with ⟨t, hc, -, hgt, -⟩ | ⟨hn | hf, -⟩
    · rw [hc] at h
      simp only at h
      split at h
      · cases h
      · have := denoteTokens_good rest _ _ _ h hall.2 (hgt hg)
        have k := applyTok_hash_digits cfg t
        exact ⟨this.1.trans k.1, this.2.1.trans k.2, this.2.2⟩
    · rw [hn] at h; cases h
    · rw [hf] at hall; cases hall.1

theorem parseRawSuite_eq_ok {raw : Bytes} {cfg : SuiteConfig} : parseRawSuite raw = .ok cfg ↔
    ¬(raw.any fun c => c.toNat ≥ 128) = true ∧ ∃ crypto dataInput h d cfg0,
      splitOn 58 raw = [sOCRA1, crypto, dataInput] ∧ parseCryptoFunction crypto = some (h, d) ∧
      parseTokens { zeroCfg with hash := h, digits := d } 0 (splitOn 45 dataInput) = some cfg0 ∧
      suiteValidate { cfg0 with raw := raw } = none ∧ { cfg0 with raw := raw } = cfg := by
  constructor
  · intro h
    unfold parseRawSuite at h
    rw [ite_err_eq_ok] at h
    obtain ⟨hany, h⟩ := h
    split at h
    rotate_left
    · cases h
    rename_i v crypto dataInput hs
    rw [ite_err_eq_ok] at h
    obtain ⟨hv, h⟩ := h
    split at h
    · cases h
    rename_i hh dd hpc
    split at h
    · cases h
    rename_i cfg0 ht
    simp only at h
    split at h
    · cases h
    rename_i hval
    exact ⟨hany, crypto, dataInput, hh, dd, cfg0, by rw [hs, Decidable.not_not.mp hv], hpc, ht, hval, Out.ok.inj h⟩
  · rintro ⟨hany, crypto, dataInput, h, d, cfg0, hs, hpc, ht, hv, rfl⟩
    unfold parseRawSuite
    rw [if_neg hany, hs]
    simp only [hpc, ht, hv, ne_eq, not_true_eq_false, if_false]

theorem denote_eq_some {raw : Bytes} {cfg : SuiteConfig} : Spec.denote raw = some cfg ↔
    ¬(raw.any fun c => c.toNat ≥ 128) = true ∧ ∃ crypto dataInput h d cfg0,
      splitOn 58 raw = [sOCRA1, crypto, dataInput] ∧ parseCryptoFunction crypto = some (h, d) ∧ ¬(d < 4 ∨ d > 10) ∧
      Spec.denoteTokens { Spec.emptyCfg with hash := h, digits := d } 0 (splitOn 45 dataInput) = some cfg0 ∧
      ¬(cfg0.incT = true ∧ cfg0.timeStep ≤ 0) ∧ { cfg0 with raw := raw } = cfg := by
  constructor
  · intro h
    unfold Spec.denote at h
    rw [Option.ite_none_left_eq_some] at h
    obtain ⟨hany, h⟩ := h
    split at h
    rotate_left
    · cases h
    rename_i v crypto dataInput hs
    rw [Option.ite_none_left_eq_some] at h
    obtain ⟨hv, h⟩ := h
    split at h
    rotate_left
    · cases h
    rename_i w0 w1 w2 hsp
    rw [Option.ite_none_left_eq_some] at h
    obtain ⟨hw0, h⟩ := h
    split at h
    rotate_left
    · cases h
    rename_i hh dd hw1 hw2
    rw [Option.ite_none_left_eq_some] at h
    obtain ⟨hd, h⟩ := h
    split at h
    rotate_left
    · cases h
    rename_i cfg0 hden
    rw [Option.ite_none_left_eq_some] at h
    exact ⟨hany, crypto, dataInput, hh, dd, cfg0, by rw [hs, Decidable.not_not.mp hv]; rfl,
      (parseCrypto_iff crypto hh dd).mpr ⟨w0, w1, w2, hsp, Decidable.not_not.mp hw0, hw1, hw2⟩, hd, hden, h.1, Option.some.inj h.2⟩
  · rintro ⟨hany, crypto, dataInput, h, d, cfg0, hs, hpc, hd, hden, hT, rfl⟩
    obtain ⟨w0, w1, w2, hsp, hw0, hw1, hw2⟩ := (parseCrypto_iff crypto h d).mp hpc
    unfold Spec.denote
    rw [if_neg hany, hs]
    simp only [sOCRA1, hsp, hw0, hw1, hw2, hden, ne_eq, not_true_eq_false, if_false, if_neg hd, if_neg hT]

/-- **the exact language of the library's parser**: it accepts a string, with a reading, iff the naming scheme gives the
string that reading and its data inputs are ones a `SuiteConfig` can represent.  Of `Spec.usable`, the digit range is
`denote`'s own check, `hash < 3` comes from the name table, the P and Q clauses are `cfgGood` kept by the token loop, the T
clause is `denote`'s last test -/
theorem parseRawSuite_iff (raw : Bytes) (cfg : SuiteConfig) :
    parseRawSuite raw = .ok cfg ↔ Spec.denote raw = some cfg ∧ representable raw := by
  rw [parseRawSuite_eq_ok, denote_eq_some]
  have hg0 (h d : Nat) : cfgGood { zeroCfg with hash := h, digits := d } := ⟨fun hp => (by cases hp), fun hq => (by cases hq)⟩
  constructor
  · rintro ⟨hany, crypto, dataInput, h, d, cfg0, hs, hpc, ht, hv, rfl⟩
    obtain ⟨d4, d10, -, -, hT, hQ⟩ : Spec.usable cfg0 := (suiteValidate_iff _).mp hv
    obtain ⟨hden, hall⟩ := (parseTokens_iff _ _ cfg0 0 (fun _ => rfl) hQ).mp ht
    obtain ⟨-, kd, -⟩ := denoteTokens_good _ _ _ _ hden hall (hg0 h d)
    change cfg0.digits = (d : Int) at kd
    exact ⟨⟨hany, crypto, dataInput, h, d, cfg0, hs, hpc, by omega, hden, fun t => by have := hT t.1; omega, rfl⟩,
      (representable_iff hs).mpr hall⟩
  · rintro ⟨⟨hany, crypto, dataInput, h, d, cfg0, hs, hpc, hd, hden, hT, rfl⟩, hrep⟩
    have hall := (representable_iff hs).mp hrep
    obtain ⟨kh, kd, gP, gQ⟩ := denoteTokens_good _ _ _ _ hden hall (hg0 h d)
    change cfg0.hash = h at kh
    change cfg0.digits = (d : Int) at kd
    obtain ⟨-, w1, -, -, -, hw1, -⟩ := (parseCrypto_iff crypto h d).mp hpc
    have hh : h < 3 := by rcases hashOfName_cases hw1 with ⟨-, e⟩ | ⟨-, e⟩ | ⟨-, e⟩ <;> omega
    have hu : Spec.usable cfg0 := ⟨by omega, by omega, by omega, gP, fun t => Int.not_le.mp fun z => hT ⟨t, z⟩, gQ⟩
    exact ⟨hany, crypto, dataInput, h, d, cfg0, hs, hpc, (parseTokens_iff _ _ cfg0 0 (fun _ => rfl) gQ).mpr ⟨hden, hall⟩,
      (suiteValidate_iff _).mpr hu, rfl⟩

/-- **soundness of the library's parser**: whatever `parseRawSuite` accepts, the naming scheme reads the same way -/
theorem parseRawSuite_sound (raw : Bytes) (cfg : SuiteConfig) (h : parseRawSuite raw = .ok cfg) :
    Spec.denote raw = some cfg :=
  ((parseRawSuite_iff raw cfg).mp h).1

theorem parseRawSuite_representable (raw : Bytes) (cfg : SuiteConfig) (h : parseRawSuite raw = .ok cfg) :
    representable raw :=
  ((parseRawSuite_iff raw cfg).mp h).2

/-- **completeness of the library's parser** on the representable sub-grammar: whatever the naming scheme gives a
meaning to, with data inputs the library can represent, `parseRawSuite` accepts and reads the same way -/
theorem parseRawSuite_complete (raw : Bytes) (cfg : SuiteConfig)
    (h : Spec.denote raw = some cfg) (hrep : representable raw) : parseRawSuite raw = .ok cfg :=
  (parseRawSuite_iff raw cfg).mpr ⟨h, hrep⟩

def parseRawSuite_toOption (raw : Bytes) : Option SuiteConfig :=
  match parseRawSuite raw with
  | .ok cfg => some cfg
  | _ => none

/-- a representable, non-registered suite string: the data-input part of `OCRA-1:HOTP-SHA256-7:C-QN10-PSHA1-S064-T5M` -/
example : (splitOn 45 [67, 45, 81, 78, 49, 48, 45, 80, 83, 72, 65, 49, 45, 83, 48, 54, 52, 45, 84, 53, 77]).all
    representableTok = true := by decide

/-- the whole string `OCRA-1:HOTP-SHA256-7:C-QN10-PSHA1-S064-T5M` (not a registered name) -/
def exampleSuite : Bytes :=
  [79, 67, 82, 65, 45, 49, 58, 72, 79, 84, 80, 45, 83, 72, 65, 50, 53, 54, 45, 55, 58,
   67, 45, 81, 78, 49, 48, 45, 80, 83, 72, 65, 49, 45, 83, 48, 54, 52, 45, 84, 53, 77]

example : representable exampleSuite :=
  (representable_iff (rfl : splitOn 58 exampleSuite = [_, _, _])).mpr (by decide +kernel)

example : isKnownSuite exampleSuite = false := by decide +kernel

example : (Spec.denote exampleSuite).isSome = true ∧ Spec.denote exampleSuite = parseRawSuite_toOption exampleSuite := by
  decide +kernel

/-- `QA08` (alphanumeric challenge) is not representable -/
example : representableTok [81, 65, 48, 56] = false := by decide

/-- `T1` (a time step without a unit) is not representable -/
example : representableTok [84, 49] = false := by decide

/-- `OCRA-1:HOTP-SHA1-6:QA08`: the naming scheme gives it a meaning (alphanumeric challenge, 8 characters) … -/
example : (Spec.denote [79, 67, 82, 65, 45, 49, 58, 72, 79, 84, 80, 45, 83, 72, 65, 49, 45, 54, 58, 81, 65, 48, 56]).isSome
    = true := by decide

/-- … but the library's parser rejects it: a `SuiteConfig` cannot record that challenge format -/
example : (match parseRawSuite [79, 67, 82, 65, 45, 49, 58, 72, 79, 84, 80, 45, 83, 72, 65, 49, 45, 54, 58, 81, 65, 48, 56] with
    | .ok _ => false | _ => true) = true := by decide

end OtpVerif.Lemmas

#print axioms OtpVerif.Lemmas.parseRawSuite_complete
#print axioms OtpVerif.Lemmas.parseRawSuite_representable
#print axioms OtpVerif.Lemmas.parseRawSuite_iff

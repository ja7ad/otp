/-
The entry points of `Model/Otp` characterised: the time counter, TOTP generation as HOTP generation at the time counter,
and what the two validations compute once the secret is decoded and the skew admitted: a search over the offsets
`-skew..skew` for a counter `(c + j) mod 2^64` whose code the submitted string is.
-/
import OtpVerif.Lemmas.Validate
import OtpVerif.Lemmas.DecodeSecret

namespace OtpVerif.Lemmas
open OtpVerif OtpVerif.Model

/-- `sec` may lie before the epoch: `uint64(t.Unix())` wraps -/
theorem timeCounter_eq (sec : Int) (P : Nat) (hP : 0 < P) (hP2 : P < 2 ^ 64) :
    timeCounter sec P = .ok (toU64 sec / P) := by
  unfold timeCounter
  rw [Nat.mod_eq_of_lt hP2, if_neg (by omega)]

theorem effPeriod_pos (P : Nat) : 0 < effPeriod P := by
  unfold effPeriod; split <;> omega

theorem effPeriod_lt {P : Nat} (h : P < 2 ^ 64) : effPeriod P < 2 ^ 64 := by
  unfold effPeriod; split <;> omega

theorem generateHOTP_no_panic (O : HashOracle) (s : Bytes) (c : Nat) (p : Option Param) : generateHOTP O s c p ≠ .panic := by
  unfold generateHOTP
  split
  · exact deriveRFC4226_no_panic O _ c _ _
  · nofun
  · exact absurd ‹_› (decodeSecret_no_panic s)

/-- at every instant (before the epoch `uint64(t.Unix())` wraps) and for every period that is a `uint` -/
theorem generateTOTP_eq (O : HashOracle) (s : Bytes) (sec : Int) (p : Option Param)
    (hP : effPeriod (resolveTOTP p).period < 2 ^ 64) :
    generateTOTP O s sec p =
      generateHOTP O s (toU64 sec / effPeriod (resolveTOTP p).period) (some (resolveTOTP p)) := by
  unfold generateTOTP generateHOTP
  simp only [timeCounter_eq sec _ (effPeriod_pos _) hP]
  cases decodeSecret s <;> rfl

theorem validateHOTP_ok (O : HashOracle) (s k code : Bytes) (c : Nat) (p : Option Param)
    (hs : decodeSecret s = .ok k) (hsk : (resolveHOTP p).skew ≤ 10) (hc : c < 2 ^ 64) :
    validateHOTP O s code c p = .ok (verdictOf ((span (-((resolveHOTP p).skew : Int)) (resolveHOTP p).skew).any fun j =>
      decide (0 ≤ (c : Int) + j) &&
      decide ((1 ≤ (resolveHOTP p).digits ∧ (resolveHOTP p).digits ≤ 10 ∧ (resolveHOTP p).algo < 3) ∧
        code = Spec.hotp O.hmac (resolveHOTP p).algo k ((((c : Int) + j) % (2 ^ 64 : Int)).toNat) (resolveHOTP p).digits))) := by
  unfold validateHOTP
  simp only [hs, if_neg (Nat.not_lt.mpr hsk), accepted_validate, hotpWindow_eq _ c _ hc]
  exact windowTail _

theorem validateTOTP_ok (O : HashOracle) (s k code : Bytes) (sec : Int) (p : Option Param)
    (hs : decodeSecret s = .ok k) (hsk : (resolveTOTP p).skew ≤ 10) (hP : effPeriod (resolveTOTP p).period < 2 ^ 64) :
    validateTOTP O s code sec p = .ok (verdictOf ((span (-((resolveTOTP p).skew : Int)) (resolveTOTP p).skew).any fun j =>
      decide ((1 ≤ (resolveTOTP p).digits ∧ (resolveTOTP p).digits ≤ 10 ∧ (resolveTOTP p).algo < 3) ∧
        code = Spec.hotp O.hmac (resolveTOTP p).algo k
          (((((toU64 sec / effPeriod (resolveTOTP p).period : Nat) : Int) + j) % (2 ^ 64 : Int)).toNat)
          (resolveTOTP p).digits))) := by
  unfold validateTOTP
  simp only [hs, if_neg (Nat.not_lt.mpr hsk), timeCounter_eq sec _ (effPeriod_pos _) hP, accepted_validate, totpWindow_eq]
  exact windowTail _

end OtpVerif.Lemmas

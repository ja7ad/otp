/-
The acceptance domain of `DecodeSecret`: which trimmed texts decode, and that everything else is `badSecret`.
-/
import OtpVerif.Lemmas.Base32Decoder
import OtpVerif.Lemmas.Ascii
import OtpVerif.Model.Decoder

namespace OtpVerif.Lemmas.Dec
open OtpVerif OtpVerif.Std OtpVerif.Model OtpVerif.Lemmas.B32 OtpVerif.Std.B32

def isDataChar (c : UInt8) : Bool :=
  (65 ≤ c.toNat && c.toNat ≤ 90) || (97 ≤ c.toNat && c.toNat ≤ 122) || (50 ≤ c.toNat && c.toNat ≤ 55)

/-- what the stdlib decoder sees of one character -/
def upNat (c : UInt8) : Nat := (upperAscii c).toNat

def decIn (t : Bytes) : List Nat := t.map upNat ++ List.replicate (padAmt t.length) PAD

theorem ok_split (c : UInt8) : secretCharOk c = (isDataChar c || decide (c.toNat = 61)) := rfl

theorem upNat_eq (c : UInt8) : upNat c = if 97 ≤ c.toNat ∧ c.toNat ≤ 122 then c.toNat - 32 else c.toNat := upperAscii_toNat c

theorem isSym_upNat (c : UInt8) : isSym (upNat c) = isDataChar c := by
  rw [Bool.eq_iff_iff, isSym_iff, upNat_eq]
  simp only [isDataChar, Bool.or_eq_true, Bool.and_eq_true, decide_eq_true_eq]
  split <;> omega

theorem upNat_pad_iff (c : UInt8) : upNat c = PAD ↔ c = 61 := by
  rw [upNat_eq, ← UInt8.toNat_inj, show (61 : UInt8).toNat = 61 from rfl, PAD]; split <;> omega

theorem isEncChar_upNat (c : UInt8) (h : secretCharOk c = true) : isEncChar (upNat c) := by
  rw [ok_split, Bool.or_eq_true, ← isSym_upNat, decide_eq_true_eq] at h
  exact h.imp_right fun h => (upNat_pad_iff c).mpr (UInt8.toNat_inj.mp h)

theorem repad_eq (t : Bytes) : repad t = t ++ List.replicate (padAmt t.length) 61 := by
  unfold repad padAmt
  by_cases h : t.length % 8 ≠ 0
  · rw [if_pos h, Nat.mod_eq_of_lt (a := 8 - t.length % 8) (by omega)]
  · rw [if_neg h, Decidable.not_not.mp h]; exact (List.append_nil t).symm

theorem decoder_input (t : Bytes) : (toUpperAscii (repad t)).map UInt8.toNat = decIn t := by
  simp only [repad_eq, toUpperAscii, decIn, List.map_append, List.map_map, List.map_replicate]; rfl

theorem decIn_length_mod8 (t : Bytes) : (decIn t).length % 8 = 0 := by
  simp only [decIn, List.length_append, List.length_map, List.length_replicate, padAmt]
  omega

theorem decIn_chars (t : Bytes) (hok : t.all secretCharOk = true) : ∀ c ∈ decIn t, isEncChar c :=
  List.forall_mem_append.mpr ⟨List.forall_mem_map.mpr fun x hx => isEncChar_upNat x (List.all_eq_true.mp hok x hx),
    List.forall_mem_replicate.mpr (.inr (.inr rfl))⟩

theorem dropWhile_decIn (t : Bytes) :
    (decIn t).dropWhile isSym = (t.dropWhile isDataChar).map upNat ++ List.replicate (padAmt t.length) PAD := by
  rw [decIn, List.dropWhile_append, List.dropWhile_map, show isSym ∘ upNat = isDataChar from funext isSym_upNat]
  split
  · next h => rw [List.isEmpty_iff.mp h, List.dropWhile_replicate, show isSym PAD = false from rfl]; rfl
  · rfl

theorem decodeSecret_eq (s : Bytes) :
    decodeSecret s = if (trimSpace s).all secretCharOk = true then
        (match B32.decode (decIn (trimSpace s)) with | some bs => .ok (bs.map Nat.toUInt8) | none => .err .badSecret)
      else .err .badSecret := by
  unfold decodeSecret
  simp only [decoder_input]
  cases (trimSpace s).all secretCharOk <;> rfl

theorem decodeSecret_err_or_ok (s : Bytes) : decodeSecret s = .err .badSecret ∨ ∃ b, decodeSecret s = .ok b := by
  rw [decodeSecret_eq]
  split
  · split
    · exact .inr ⟨_, rfl⟩
    · exact .inl rfl
  · exact .inl rfl

/-- `Accept`'s condition on the number `n` of data characters and `j` of '=' (its last conjunct, by `rfl`) -/
def okCount (n j : Nat) : Prop :=
  (n % 8 = 0 ∧ j = 0) ∨ ((n % 8 = 2 ∨ n % 8 = 4 ∨ n % 8 = 5 ∨ n % 8 = 7) ∧ j ≤ 8 - n % 8)

/-- the texts `DecodeSecret` accepts after trimming: data characters (either case) followed by '=' signs, where the
number of data characters is possible for whole bytes (≡ 0, 2, 4, 5, 7 mod 8) and the '=' signs do not exceed
the canonical padding -/
def Accept (t : Bytes) : Prop :=
  ∃ (data : Bytes) (j : Nat), t = data ++ List.replicate j 61 ∧ (∀ c ∈ data, isDataChar c = true) ∧
    ((data.length % 8 = 0 ∧ j = 0) ∨
     ((data.length % 8 = 2 ∨ data.length % 8 = 4 ∨ data.length % 8 = 5 ∨ data.length % 8 = 7) ∧ j ≤ 8 - data.length % 8))

theorem span_data (data : Bytes) (j : Nat) (hd : ∀ c ∈ data, isDataChar c = true) :
    (data ++ List.replicate j 61).takeWhile isDataChar = data ∧
    (data ++ List.replicate j 61).dropWhile isDataChar = List.replicate j 61 := by
  rw [List.takeWhile_append_of_pos hd, List.dropWhile_append_of_pos hd, List.takeWhile_replicate, List.dropWhile_replicate]
  simp [show isDataChar 61 = false from rfl]

theorem accept_iff_span (t : Bytes) :
    Accept t ↔ t.dropWhile isDataChar = List.replicate (t.dropWhile isDataChar).length 61 ∧
      okCount (t.takeWhile isDataChar).length (t.dropWhile isDataChar).length := by
  constructor
  · rintro ⟨data, j, rfl, hd, hj⟩
    rw [(span_data _ _ hd).1, (span_data _ _ hd).2, List.length_replicate]
    exact ⟨rfl, hj⟩
  · exact fun ⟨h1, h2⟩ => ⟨_, _, by rw [← h1, List.takeWhile_append_dropWhile],
      List.all_eq_true.mp List.all_takeWhile, h2⟩

theorem accept_split (data : Bytes) (j : Nat) (hd : ∀ c ∈ data, isDataChar c = true) :
    Accept (data ++ List.replicate j 61) ↔ okCount data.length j := by
  rw [accept_iff_span, (span_data _ _ hd).1, (span_data _ _ hd).2, List.length_replicate]
  exact and_iff_right rfl

theorem mem_dropWhile_append (a rest : Bytes) (x : UInt8) (hx : isDataChar x = false) :
    ∀ y ∈ x :: rest, y ∈ (a ++ x :: rest).dropWhile isDataChar := by
  intro y hy
  rw [List.dropWhile_append]
  split
  · rwa [List.dropWhile_cons_of_neg (by simp [hx])]
  · exact List.mem_append_right _ hy

theorem accept_all_ok (t : Bytes) (h : Accept t) : t.all secretCharOk = true := by
  obtain ⟨data, j, rfl, hd, -⟩ := h
  exact List.all_eq_true.mpr (List.forall_mem_append.mpr
    ⟨fun c h => by rw [ok_split, hd c h]; rfl, List.forall_mem_replicate.mpr (.inr rfl)⟩)

/-- `j` '=' after `n` data characters, re-padded: up to the canonical padding `(8 - n % 8) % 8` the result is the canonical
padding, beyond it the padding spills into another quantum -/
theorem pad_arith (n j : Nat) : okPad (j + padAmt (n + j)) = true ↔ okCount n j := by
  unfold okCount
  have hr : n % 8 < 8 := Nat.mod_lt _ (by decide)
  by_cases h : j ≤ (8 - n % 8) % 8
  · rw [show j + padAmt (n + j) = (8 - n % 8) % 8 by unfold padAmt; omega]
    -- finitely many cases are left: `n % 8 < 8`, and `j` is at most the canonical padding
    generalize n % 8 = r at *
    revert j
    revert r
    decide
  · have : 8 ≤ j + padAmt (n + j) := by unfold padAmt; omega
    exact iff_of_false (fun hp => by have := okPad_lt _ hp; omega) (by omega)

theorem all_pad_iff (p : Bytes) (k : Nat) :
    (p.map upNat ++ List.replicate k PAD).all (· == PAD) = true ↔ p = List.replicate p.length 61 := by
  simp [List.eq_replicate_iff, upNat_pad_iff]

theorem accShape_iff (t : Bytes) : accShape (decIn t) = true ↔ Accept t := by
  rw [accept_iff_span, accShape, dropWhile_decIn, Bool.and_eq_true, all_pad_iff]
  refine and_congr_right fun _ => ?_
  rw [List.length_append, List.length_map, List.length_replicate, show t.length =
    (t.takeWhile isDataChar).length + (t.dropWhile isDataChar).length by rw [← List.length_append, List.takeWhile_append_dropWhile]]
  exact pad_arith _ _

theorem decode_decIn_isSome (t : Bytes) (hok : t.all secretCharOk = true) : (B32.decode (decIn t)).isSome = accShape (decIn t) := by
  rw [decode_eq_loop _ (decIn_chars t hok)]
  exact decodeLoop_isSome _ _ (decIn_length_mod8 _) (Nat.le_refl _)

theorem decodeSecret_accept_iff (s : Bytes) : (∃ b, decodeSecret s = .ok b) ↔ Accept (trimSpace s) := by
  rw [decodeSecret_eq]
  by_cases hok : (trimSpace s).all secretCharOk = true
  · rw [if_pos hok, ← accShape_iff, ← decode_decIn_isSome _ hok]
    cases B32.decode (decIn (trimSpace s)) <;> simp
  · rw [if_neg hok]
    exact iff_of_false (fun ⟨_, h⟩ => nomatch h) fun h => hok (accept_all_ok _ h)

end OtpVerif.Lemmas.Dec

namespace OtpVerif.Lemmas

theorem decodeSecret_no_panic (s : Bytes) : Model.decodeSecret s ≠ .panic := by
  rcases Dec.decodeSecret_err_or_ok s with h | ⟨b, h⟩ <;> rw [h] <;> nofun

end OtpVerif.Lemmas

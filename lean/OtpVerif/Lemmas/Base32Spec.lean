/-
The bit-wise RFC 4648 encoder of the Spec layer (`Spec.b32NoPad`) is the 5-byte-quantum encoder that models Go's
`encoding/base32` (`B32.encNoPad`).  The bridge is `natOfBits` as a binary numeral: `take` is a quotient and `drop` a remainder,
so Go's shift-and-mask formulas `s0 … s7` are the values of the bit fields of the RFC's diagram (`groups5_quantum`).  A short
last quantum is the full one on zero-filled input, cut off (`groups5_short`).
-/
import OtpVerif.Spec.Base32
import OtpVerif.Std.Base32
import OtpVerif.Lemmas.Numeral
namespace OtpVerif.Lemmas.B32Spec
open OtpVerif OtpVerif.Spec OtpVerif.Std

def bv (b : Bool) : Nat := if b then 1 else 0
theorem bv_false : bv false = 0 := rfl

theorem natOfBits_eq_val (l : List Bool) : natOfBits l = Pos.val 2 bv l := by
  unfold natOfBits Pos.val
  congr 1; funext n b; rw [Nat.mul_comm]; rfl

theorem natOfBits_append (l m : List Bool) : natOfBits (l ++ m) = natOfBits l * 2 ^ m.length + natOfBits m := by
  simp only [natOfBits_eq_val, Pos.val_append]

theorem natOfBits_cons (b : Bool) (l : List Bool) : natOfBits (b :: l) = bv b * 2 ^ l.length + natOfBits l := by
  simp only [natOfBits_eq_val, Pos.val_cons]

theorem bv_lt (b : Bool) : bv b < 2 := by cases b <;> decide

theorem natOfBits_take (l : List Bool) (k : Nat) : natOfBits (l.take k) = natOfBits l / 2 ^ (l.length - k) := by
  simp only [natOfBits_eq_val, (Pos.val_take_drop 2 bv l k fun b _ => bv_lt b).1]

theorem natOfBits_drop (l : List Bool) (k : Nat) : natOfBits (l.drop k) = natOfBits l % 2 ^ (l.length - k) := by
  simp only [natOfBits_eq_val, (Pos.val_take_drop 2 bv l k fun b _ => bv_lt b).2]

theorem natOfBits_zeros (k : Nat) : natOfBits (List.replicate k false) = 0 := by
  rw [natOfBits_eq_val]; exact Pos.val_replicate_zero 2 bv false rfl k

theorem natOfBits_false5 : natOfBits [false, false, false, false, false] = 0 := natOfBits_zeros 5

theorem bv_of_decide (m : Nat) (h : m < 2) : bv (decide (m = 1)) = m := by
  have : m = 0 ∨ m = 1 := by omega
  rcases this with h | h <;> subst h <;> rfl

theorem nat5 (a b c d e : Nat) (ha : a < 2) (hb : b < 2) (hc : c < 2) (hd : d < 2) (he : e < 2) :
    natOfBits [decide (a = 1), decide (b = 1), decide (c = 1), decide (d = 1), decide (e = 1)] = 16 * a + 8 * b + 4 * c + 2 * d + e := by
  simp only [natOfBits_cons, show natOfBits [] = 0 from rfl, bv_of_decide _ ha, bv_of_decide _ hb, bv_of_decide _ hc, bv_of_decide _ hd, bv_of_decide _ he,
    List.length_cons, List.length_nil]
  omega

theorem natOfBits_byte (x : UInt8) : natOfBits (bitsOf [x]) = x.toNat := by
  have := val_digits 2 bv (fun m => decide (m % 2 = 1)) (fun n => bv_of_decide _ (Nat.mod_lt n (by decide))) 8 x.toNat
  rw [Nat.mod_eq_of_lt x.toNat_lt] at this
  simpa [bitsOf, natOfBits_eq_val] using this

theorem bitsOf_append (a b : Bytes) : bitsOf (a ++ b) = bitsOf a ++ bitsOf b := List.flatMap_append

theorem bitsOf_cons (x : UInt8) (b : Bytes) : bitsOf (x :: b) = bitsOf [x] ++ bitsOf b := bitsOf_append [x] b

theorem length_bitsOf (b : Bytes) : (bitsOf b).length = 8 * b.length := by
  simp [bitsOf, List.length_flatMap, List.map_const', List.sum_replicate_nat, Nat.mul_comm]

theorem bitsOf_zeros (k : Nat) : bitsOf (List.replicate k 0) = List.replicate (8 * k) false := by
  induction k with
  | zero => rfl
  | succ k ih => rw [List.replicate_succ, bitsOf_cons, ih, Nat.mul_succ, Nat.add_comm, ← List.replicate_append_replicate]; rfl

theorem groups5_nil (fuel : Nat) : groups5 fuel [] = [] := by
  cases fuel <;> rfl

theorem groups5_append (fuel : Nat) (g tl : List Bool) (hg : g.length = 5) :
    groups5 (fuel + 1) (g ++ tl) = g :: groups5 fuel tl := by
  have : g ≠ [] := by intro h; rw [h] at hg; cases hg
  simp [groups5, hg, this]

theorem groups5_last (fuel : Nat) (g : List Bool) (h0 : g ≠ []) (hg : g.length ≤ 5) :
    groups5 (fuel + 1) g = [g ++ List.replicate (5 - g.length) false] := by
  simp [groups5, h0, List.take_of_length_le hg, List.drop_of_length_le hg, groups5_nil]

theorem groups5_zeros (fuel k : Nat) (bs : List Bool) :
    groups5 fuel bs = (groups5 fuel (bs ++ List.replicate k false)).take ((bs.length + 4) / 5) := by
  induction fuel generalizing bs with
  | zero => simp [groups5]
  | succ f ih =>
    by_cases h5 : 5 ≤ bs.length
    · obtain ⟨g, r, rfl, hg⟩ : ∃ g r, bs = g ++ r ∧ g.length = 5 :=
        ⟨bs.take 5, bs.drop 5, (List.take_append_drop 5 bs).symm, by rw [List.length_take]; omega⟩
      rw [List.append_assoc, groups5_append _ _ _ hg, groups5_append _ _ _ hg, List.length_append, hg,
        show (5 + r.length + 4) / 5 = (r.length + 4) / 5 + 1 by omega, List.take_succ_cons, ← ih]
    · by_cases h0 : bs = []
      · subst h0; simp [groups5_nil]
      · have := List.length_pos_iff.mpr h0
        rw [groups5_last _ _ h0 (by omega), show (bs.length + 4) / 5 = 1 by omega]
        simp [groups5, h0, List.take_append, List.take_of_length_le (Nat.le_of_not_le h5)]
        omega

theorem groups5_short (fuel : Nat) (b : Bytes) :
    groups5 fuel (bitsOf b) = (groups5 fuel (bitsOf (b ++ List.replicate (5 - b.length) 0))).take ((8 * b.length + 4) / 5) := by
  rw [bitsOf_append, bitsOf_zeros, ← length_bitsOf]; exact groups5_zeros ..

theorem take_append_drop_append {α} (n : Nat) (l r : List α) : l.take n ++ (l.drop n ++ r) = l ++ r := by
  rw [← List.append_assoc, List.take_append_drop]

theorem groups5_quantum (fuel : Nat) (B0 B1 B2 B3 B4 tl : List Bool)
    (h0 : B0.length = 8) (h1 : B1.length = 8) (h2 : B2.length = 8) (h3 : B3.length = 8) (h4 : B4.length = 8) :
    (groups5 (fuel + 8) (B0 ++ (B1 ++ (B2 ++ (B3 ++ (B4 ++ tl)))))).map natOfBits =
      B32.s0 (natOfBits B0) :: B32.s1 (natOfBits B0) (natOfBits B1) :: B32.s2 (natOfBits B1) ::
      B32.s3 (natOfBits B1) (natOfBits B2) :: B32.s4 (natOfBits B2) (natOfBits B3) :: B32.s5 (natOfBits B3) ::
      B32.s6 (natOfBits B3) (natOfBits B4) :: B32.s7 (natOfBits B4) :: (groups5 fuel tl).map natOfBits := by
  have e : B0 ++ (B1 ++ (B2 ++ (B3 ++ (B4 ++ tl)))) =
      B0.take 5 ++ ((B0.drop 5 ++ B1.take 2) ++ ((B1.drop 2).take 5 ++ ((B1.drop 7 ++ B2.take 4) ++
      ((B2.drop 4 ++ B3.take 1) ++ ((B3.drop 1).take 5 ++ ((B3.drop 6 ++ B4.take 3) ++ (B4.drop 3 ++ tl))))))) := by
    have e1 : B1.drop 7 = (B1.drop 2).drop 5 := by rw [List.drop_drop]
    have e3 : B3.drop 6 = (B3.drop 1).drop 5 := by rw [List.drop_drop]
    simp only [e1, e3, List.append_assoc, take_append_drop_append]
  rw [e]
  iterate 8 rw [groups5_append _ _ _ (by simp [*])]
  simp only [List.map_cons, natOfBits_append, natOfBits_take, natOfBits_drop, List.length_take, List.length_drop, h0, h1, h2, h3, h4,
    B32.s0, B32.s1, B32.s2, B32.s3, B32.s4, B32.s5, B32.s6, B32.s7]
  -- `s2`, `s5` are written `b / 2 % 32`, `b / 4 % 32`; the bit fields come out as `b % 64 / 2`, `b % 128 / 4`
  simp [Nat.mod_mul_right_div_self _ 2 32, Nat.mod_mul_right_div_self _ 4 32]

theorem groups5_bytes (fuel : Nat) (b0 b1 b2 b3 b4 : UInt8) (rest : Bytes) :
    (groups5 (fuel + 8) (bitsOf (b0 :: b1 :: b2 :: b3 :: b4 :: rest))).map natOfBits =
      B32.s0 b0.toNat :: B32.s1 b0.toNat b1.toNat :: B32.s2 b1.toNat :: B32.s3 b1.toNat b2.toNat :: B32.s4 b2.toNat b3.toNat ::
      B32.s5 b3.toNat :: B32.s6 b3.toNat b4.toNat :: B32.s7 b4.toNat :: (groups5 fuel (bitsOf rest)).map natOfBits := by
  have l (x : UInt8) : (bitsOf [x]).length = 8 := length_bitsOf [x]
  rw [bitsOf_cons b0, bitsOf_cons b1, bitsOf_cons b2, bitsOf_cons b3, bitsOf_cons b4,
    groups5_quantum _ _ _ _ _ _ _ (l _) (l _) (l _) (l _) (l _)]
  simp only [natOfBits_byte]

theorem groups_short (f : Nat) (b : Bytes) (b0 b1 b2 b3 b4 : UInt8) (hb : b ++ List.replicate (5 - b.length) 0 = [b0, b1, b2, b3, b4]) :
    (groups5 (f + 8) (bitsOf b)).map (B32.alpha ∘ natOfBits) =
      (B32.encNoPad [b0.toNat, b1.toNat, b2.toNat, b3.toNat, b4.toNat]).take ((8 * b.length + 4) / 5) := by
  rw [groups5_short, hb, ← List.map_map, List.map_take, groups5_bytes]
  simp [B32.encNoPad, bitsOf, groups5_nil]

theorem groups_eq : ∀ (b : Bytes) (f : Nat),
    (groups5 (f + 8 * b.length) (bitsOf b)).map (B32.alpha ∘ natOfBits) = B32.encNoPad (b.map UInt8.toNat)
  | [], f => by simp [bitsOf, groups5_nil, B32.encNoPad]
  | b0 :: b1 :: b2 :: b3 :: b4 :: rest, f => by
    rw [show f + 8 * (b0 :: b1 :: b2 :: b3 :: b4 :: rest).length = (f + 32 + 8 * rest.length) + 8 by
      simp only [List.length_cons]; omega, ← List.map_map, groups5_bytes]
    simp only [List.map_cons, List.map_map, B32.encNoPad, groups_eq rest (f + 32)]
  | [b0], f => (groups_short f [b0] b0 0 0 0 0 rfl).trans (by simp [B32.encNoPad])
  | [b0, b1], f => (groups_short f [b0, b1] b0 b1 0 0 0 rfl).trans (by simp [B32.encNoPad])
  | [b0, b1, b2], f => (groups_short f [b0, b1, b2] b0 b1 b2 0 0 rfl).trans (by simp [B32.encNoPad])
  | [b0, b1, b2, b3], f => (groups_short f [b0, b1, b2, b3] b0 b1 b2 b3 0 rfl).trans (by simp [B32.encNoPad])

theorem alphaChar_eq (v : Nat) : alphaChar v = Nat.toUInt8 (B32.alpha v) := by
  unfold alphaChar B32.alpha; split <;> rfl

theorem b32NoPad_eq (b : Bytes) : b32NoPad b = (B32.encNoPad (b.map UInt8.toNat)).map Nat.toUInt8 := by
  rw [← groups_eq b 0, Nat.zero_add, List.map_map]
  exact List.map_congr_left fun g _ => alphaChar_eq _

end OtpVerif.Lemmas.B32Spec

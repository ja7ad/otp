/-
Bytes as numbers: the `UInt8`/`Nat` boundary and ASCII case mapping read through `toNat`, so that facts about
character classes are linear arithmetic.
-/
import OtpVerif.Std.Strings

namespace OtpVerif.Lemmas
open OtpVerif OtpVerif.Std

theorem toUInt8_toNat (n : Nat) (h : n < 256) : (Nat.toUInt8 n).toNat = n := by
  simp only [Nat.toUInt8_eq, UInt8.toNat_ofNat']; omega

theorem map_toNat_lt (b : Bytes) : ∀ x ∈ b.map UInt8.toNat, x < 256 := by
  intro x hx; obtain ⟨y, _, rfl⟩ := List.mem_map.mp hx; exact y.toNat_lt

theorem map_toUInt8_toNat (b : Bytes) : (b.map UInt8.toNat).map Nat.toUInt8 = b := by
  rw [List.map_map]; exact (List.map_congr_left fun x _ => by simp).trans (List.map_id b)

theorem map_toNat_toUInt8 (l : List Nat) (h : ∀ x ∈ l, x < 256) : (l.map Nat.toUInt8).map UInt8.toNat = l := by
  rw [List.map_map]; exact (List.map_congr_left fun x hx => toUInt8_toNat x (h x hx)).trans (List.map_id l)

theorem upperAscii_toNat (c : UInt8) :
    (upperAscii c).toNat = if 97 ≤ c.toNat ∧ c.toNat ≤ 122 then c.toNat - 32 else c.toNat := by
  unfold upperAscii
  split
  · next h => exact UInt8.toNat_sub_of_le _ _ (show (32 : UInt8).toNat ≤ c.toNat by rw [show (32 : UInt8).toNat = 32 from rfl]; omega)
  · rfl

theorem lowerAscii_toNat (c : UInt8) :
    (lowerAscii c).toNat = if 65 ≤ c.toNat ∧ c.toNat ≤ 90 then c.toNat + 32 else c.toNat := by
  unfold lowerAscii
  split
  · next h => rw [UInt8.toNat_add, show (32 : UInt8).toNat = 32 from rfl]; omega
  · rfl

theorem upperAscii_eq_iff {c u : UInt8} (hu : u.toNat < 65) : upperAscii c = u ↔ c = u := by
  rw [← UInt8.toNat_inj, ← UInt8.toNat_inj (a := c), upperAscii_toNat]
  split <;> omega

theorem mem_toUpperAscii {s : Bytes} {u : UInt8} (hu : u.toNat < 65) : u ∈ toUpperAscii s ↔ u ∈ s := by
  simp [toUpperAscii, upperAscii_eq_iff hu]

end OtpVerif.Lemmas

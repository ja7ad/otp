/-
Percent-encoding and query-string round trips for the `net/url` model, and `strconv` round trips.
-/
import OtpVerif.Std.Url
import OtpVerif.Lemmas.Numeral
import OtpVerif.Lemmas.Strings

namespace OtpVerif.Lemmas.Url
open OtpVerif OtpVerif.Std OtpVerif.Std.Url

theorem escape_cons (m : Mode) (c : UInt8) (cs : Bytes) : escape m (c :: cs) = escape m [c] ++ escape m cs := by
  simp only [escape]
  split
  · rfl
  · split <;> rfl

theorem byte_recompose (c : UInt8) : ((c.toNat / 16) * 16 + c.toNat % 16).toUInt8 = c := by
  rw [Nat.div_add_mod']; exact UInt8.ofNat_toNat

theorem unescape_escape_singleton (m : Mode) (c : UInt8) (r : Bytes) :
    unescape m (escape m [c] ++ r) = (unescape m r).map (c :: ·) := by
  simp only [escape]
  split
  · next hq =>
    show unescape m (43 :: r) = _
    conv => lhs; unfold unescape
    rw [if_neg (by decide), if_pos ⟨hq.1, rfl⟩, hq.2]
  · split
    · have hlt := c.toNat_lt
      show unescape m (37 :: hexDigit _ :: hexDigit _ :: r) = _
      conv => lhs; unfold unescape
      rw [if_pos rfl]
      simp only [Lemmas.unhex_hexDigit _ (show c.toNat / 16 < 16 by omega),
        Lemmas.unhex_hexDigit _ (show c.toNat % 16 < 16 by omega)]
      cases unescape m r <;> simp only [byte_recompose, Option.map]
    · next hse =>
      -- a byte left as it is is neither '%' nor, in a query, '+'
      have h37 : c ≠ 37 := by rintro rfl; cases m <;> exact hse (by decide)
      have h43 : ¬ (m = .query ∧ c = 43) := by rintro ⟨rfl, rfl⟩; exact hse (by decide)
      show unescape m (c :: r) = _
      conv => lhs; unfold unescape
      rw [if_neg h37, if_neg h43]

theorem unescape_escape (m : Mode) (s : Bytes) : unescape m (escape m s) = some s := by
  induction s with
  | nil => rfl
  | cons c cs ih => rw [escape_cons, unescape_escape_singleton, ih]; rfl

theorem hexDigit_alnum : ∀ n < 16, isAlnum (hexDigit n) = true := by decide

theorem alnum_not_escaped (m : Mode) (c : UInt8) (h : isAlnum c = true) : shouldEscape m c = false := by
  unfold shouldEscape; rw [if_pos h]

theorem escape_singleton_avoids (m : Mode) (c b : UInt8) (hb : shouldEscape m b = true) (h37 : b ≠ 37) (h43 : b ≠ 43) :
    b ∉ escape m [c] := by
  have hlt := c.toNat_lt
  have hd : ∀ n < 16, b ≠ hexDigit n := by
    rintro n hn rfl; rw [alnum_not_escaped m _ (hexDigit_alnum n hn)] at hb; cases hb
  simp only [escape]
  split
  · simpa using h43
  · split
    · simp only [List.mem_cons, List.not_mem_nil, or_false, not_or]
      exact ⟨h37, hd _ (by omega), hd _ (by omega)⟩
    · next hse => rw [List.mem_singleton]; rintro rfl; exact hse hb

theorem escape_avoids (m : Mode) (s : Bytes) (b : UInt8) (hb : shouldEscape m b = true) (h37 : b ≠ 37) (h43 : b ≠ 43) :
    b ∉ escape m s := by
  induction s with
  | nil => exact List.not_mem_nil
  | cons c cs ih => rw [escape_cons, List.mem_append]; exact not_or.mpr ⟨escape_singleton_avoids m c b hb h37 h43, ih⟩

theorem ctl_escaped (m : Mode) (c : UInt8) (h : isCTL c = true) : shouldEscape m c = true := by
  have hn : c.toNat < 32 ∨ c.toNat = 127 := by simpa [isCTL] using h
  have hc : isAlnum c = false ∧ isMark c = false ∧ isReserved c = false := by
    simp only [isAlnum, isMark, isReserved, Bool.or_eq_false_iff, Bool.and_eq_false_iff, decide_eq_false_iff_not,
      ← UInt8.toNat_inj, UInt8.reduceToNat]
    omega
  unfold shouldEscape; rw [hc.1, hc.2.1, hc.2.2]; rfl

theorem escape_clean (m : Mode) (s : Bytes) : ∀ c ∈ escape m s, isCTL c = false ∧ c ≠ 35 := by
  intro c hc
  constructor
  · cases h : isCTL c with
    | false => rfl
    | true => refine absurd hc (escape_avoids m s c (ctl_escaped m c h) ?_ ?_) <;> rintro rfl <;> exact absurd h (by decide)
  · rintro rfl
    exact escape_avoids m s 35 (by cases m <;> rfl) (by decide) (by decide) hc

theorem splitFirst_none (c : UInt8) : ∀ (s : Bytes), c ∉ s → splitFirst c s = none := by
  intro s h
  simpa [splitFirst] using splitFirst_prepend [] h

theorem splitOn_join (sep : UInt8) : ∀ (pieces : List Bytes), pieces ≠ [] → (∀ p ∈ pieces, sep ∉ p) →
    splitOn sep (joinWith sep pieces) = pieces := by
  intro pieces
  induction pieces with
  | nil => intro h; exact absurd rfl h
  | cons p ps ih =>
    intro _ hs
    cases ps with
    | nil => simp only [joinWith]; exact splitOn_single (hs p (by simp))
    | cons q qs =>
      simp only [joinWith]
      rw [splitOn_append _ (hs p (by simp))]
      rw [ih (by simp) (fun x hx => hs x (by simp [hx]))]

theorem piece_avoids (k v : Bytes) (b : UInt8) (hb : shouldEscape .query b = true) (h37 : b ≠ 37) (h43 : b ≠ 43)
    (h61 : b ≠ 61) : b ∉ escape .query k ++ 61 :: escape .query v := by
  rw [List.mem_append, List.mem_cons]
  exact not_or.mpr ⟨escape_avoids _ k b hb h37 h43, not_or.mpr ⟨h61, escape_avoids _ v b hb h37 h43⟩⟩

theorem parsePair_encoded (k v : Bytes) :
    parsePair (escape .query k ++ 61 :: escape .query v) = some (k, v) := by
  unfold parsePair
  rw [List.contains_eq_mem, decide_eq_false (piece_avoids k v 59 (by decide) (by decide) (by decide) (by decide))]
  have hne : (escape .query k ++ 61 :: escape .query v).isEmpty = false := by
    cases escape .query k <;> rfl
  simp only [Bool.false_eq_true, if_false, hne]
  rw [splitFirst_append 61 _ _ (escape_avoids .query k 61 (by decide) (by decide) (by decide))]
  simp only [unescape_escape]

theorem parseQuery_encode (kvs : List (Bytes × Bytes)) : parseQuery (valuesEncode kvs) = kvs := by
  by_cases hne : kvs = []
  · subst hne; rfl        -- the empty text is one empty piece, which `parsePair` skips
  unfold parseQuery valuesEncode
  rw [splitOn_join 38 _ (by simpa using hne) (by
    intro p hp
    obtain ⟨kv, _, rfl⟩ := List.mem_map.mp hp
    exact piece_avoids kv.1 kv.2 38 (by decide) (by decide) (by decide) (by decide)), List.filterMap_map]
  rw [show parsePair ∘ _ = some from funext fun kv => parsePair_encoded kv.1 kv.2, List.filterMap_some]

theorem forall_mem_joinWith {P : UInt8 → Prop} {sep : UInt8} (hsep : P sep) :
    ∀ pieces : List Bytes, (∀ p ∈ pieces, ∀ c ∈ p, P c) → ∀ c ∈ joinWith sep pieces, P c
  | [], _ => nofun
  | [p], h => h p (List.mem_singleton_self p)
  | p :: q :: qs, h => by
    rw [List.forall_mem_cons] at h
    simp only [joinWith, List.forall_mem_append, List.forall_mem_cons]
    exact ⟨h.1, hsep, forall_mem_joinWith hsep (q :: qs) h.2⟩

theorem valuesEncode_clean (kvs : List (Bytes × Bytes)) : ∀ c ∈ valuesEncode kvs, isCTL c = false ∧ c ≠ 35 := by
  refine forall_mem_joinWith (P := fun c => isCTL c = false ∧ c ≠ 35) (by decide) _ fun p hp => ?_
  obtain ⟨kv, _, rfl⟩ := List.mem_map.mp hp
  rw [List.forall_mem_append, List.forall_mem_cons]
  exact ⟨escape_clean .query kv.1, by decide, escape_clean .query kv.2⟩

theorem valuesEncode_ne_nil (kvs : List (Bytes × Bytes)) (h : kvs ≠ []) : valuesEncode kvs ≠ [] := by
  intro e
  -- an empty encoding would parse back to `kvs` by the round trip, and to `[]` by computation
  have hp : parseQuery [] = kvs := e ▸ parseQuery_encode kvs
  exact h hp.symm

def decVal (s : Bytes) : Nat := s.foldl (fun (n : Nat) c => n * 10 + (c.toNat - 48)) 0

theorem itoa_spec (n : Nat) : (itoa n).all isDigitChar = true ∧ itoa n ≠ [] ∧ decVal (itoa n) = n := by
  show _ ∧ _ ∧ Pos.val 10 (fun c : UInt8 => c.toNat - 48) (itoa n) = n
  induction n using Nat.strongRecOn with
  | _ n ih =>
    by_cases h : n < 10
    · rw [itoa_small n h]
      simp [Pos.val, isDigitChar_digitChar, digitChar_toNat, Nat.mod_eq_of_lt h]
    · obtain ⟨h1, _, h3⟩ := ih (n / 10) (by omega)
      rw [itoa_snoc n h, Pos.val_concat, h3]
      simp [h1, isDigitChar_digitChar, digitChar_toNat]
      omega

theorem atoi_numeral (s : Bytes) (hne : s ≠ []) (hall : s.all isDigitChar = true) (hv : decVal s < 2 ^ 63) :
    atoi s = some (decVal s : Int) := by
  unfold atoi
  rw [splitSign_numeral s hall]
  simp only [List.isEmpty_eq_false_iff.mpr hne, hall, Bool.false_eq_true, false_or, Bool.not_true, if_false]
  exact if_pos hv

theorem atoi_itoa (n : Nat) (h : n < 2 ^ 63) : atoi (itoa n) = some (n : Int) := by
  obtain ⟨hall, hne, hval⟩ := itoa_spec n
  rw [atoi_numeral _ hne hall (by rw [hval]; exact h), hval]

end OtpVerif.Lemmas.Url

/-
The stdlib decoder model by itself: what it does with one 8-character quantum (`decodeLoop_syms`, `decodeLoop_bad`,
`decodeLoop_last`), and from these its acceptance domain on texts of 8k characters, which is what `DecodeSecret` passes
after re-padding: a run of alphabet symbols, then 0, 1, 3, 4 or 6 '=' and nothing else (`decodeLoop_isSome`).
-/
import OtpVerif.Std.Base32

namespace OtpVerif.Lemmas.B32
open OtpVerif.Std.B32

def isSym (c : Nat) : Bool := (sym c).isSome

theorem isSym_iff (c : Nat) : isSym c = true ↔ (65 ≤ c ∧ c ≤ 90) ∨ (50 ≤ c ∧ c ≤ 55) := by
  unfold isSym sym; split
  · simp [*]
  · split <;> simp [*]

theorem sym_pad : sym PAD = none := by decide

theorem isSym_ne_pad (c : Nat) (h : isSym c = true) : c ≠ PAD := by
  intro hc; subst hc; simp [isSym, sym_pad] at h

def isEncChar (c : Nat) : Prop := isSym c = true ∨ c = PAD

theorem isEncChar_iff (c : Nat) : isEncChar c ↔ (65 ≤ c ∧ c ≤ 90) ∨ (50 ≤ c ∧ c ≤ 55) ∨ c = 61 := by
  rw [isEncChar, isSym_iff, PAD, or_assoc]

/-- the '=' that fill a text of `n` characters up to a multiple of 8 -/
def padAmt (n : Nat) : Nat := (8 - n % 8) % 8

theorem filterMap_sym_length (d : List Nat) (h : ∀ c ∈ d, isSym c = true) : (d.filterMap sym).length = d.length := by
  induction d with
  | nil => rfl
  | cons c d ih =>
    obtain ⟨v, hv⟩ := Option.isSome_iff_exists.mp (h c (by simp))
    simp [hv, ih (fun x hx => h x (by simp [hx]))]

theorem readQ_syms {d : List Nat} (rest acc : List Nat) (j m : Nat) (hd : ∀ c ∈ d, isSym c = true) :
    readQ (d.length + m) j (d ++ rest) acc = readQ m (j + d.length) rest (acc ++ d.filterMap sym) := by
  induction d generalizing j acc with
  | nil => simp
  | cons c d ih =>
    obtain ⟨v, hv⟩ := Option.isSome_iff_exists.mp (hd c (by simp))
    rw [show (c :: d).length + m = (d.length + m) + 1 by simp only [List.length_cons]; omega, List.cons_append, readQ,
      if_neg (fun h => isSym_ne_pad c (hd c (by simp)) h.1)]
    simp only [hv]
    rw [ih _ _ (fun x hx => hd x (by simp [hx]))]
    simp only [List.filterMap_cons, hv, List.length_cons, List.append_assoc, List.singleton_append, Nat.add_assoc, Nat.add_comm 1]

theorem readQ_stop {c : Nat} (rest acc : List Nat) (j m : Nat) (hc : isSym c = false) :
    readQ (m + 1) j (c :: rest) acc =
      if c = PAD ∧ 2 ≤ j ∧ rest.length < 8 ∧ 7 ≤ rest.length + j ∧ (rest.take (7 - j)).all (· == PAD) = true ∧ j ≠ 3 ∧ j ≠ 6
      then some (acc, rest, true) else none := by
  have hs : sym c = none := by simpa [isSym] using hc
  simp only [readQ, hs]
  by_cases h1 : c = PAD ∧ j ≥ 2 ∧ rest.length < 8
  · rw [if_pos h1]
    by_cases h2 : rest.length + j < 7
    · rw [if_pos h2, if_neg (by omega)]
    · rw [if_neg h2]
      have e : (rest.take (7 - j)).all (· = PAD) = (rest.take (7 - j)).all (· == PAD) := rfl
      rw [e]
      by_cases hall : (rest.take (7 - j)).all (· == PAD) = true
      · rw [hall, if_neg (by decide)]
        by_cases h3 : j = 1 ∨ j = 3 ∨ j = 6
        · rw [if_pos h3, if_neg (by omega)]
        · rw [if_neg h3, if_pos ⟨h1.1, h1.2.1, h1.2.2, by omega, rfl, by omega, by omega⟩]
      · rw [Bool.not_eq_true] at hall
        rw [hall, if_pos rfl, if_neg (by simp)]
  · rw [if_neg h1, if_neg (fun h => h1 ⟨h.1, h.2.1, h.2.2.1⟩)]

theorem dropWhile_ne_nil {p : Nat → Bool} {q : List Nat} (h : q.all p = false) : q.dropWhile p ≠ [] := by
  intro he
  have := List.takeWhile_append_dropWhile (p := p) (l := q)
  rw [he, List.append_nil] at this
  rw [← this, List.all_takeWhile] at h; cases h

theorem exists_first_not {p : Nat → Bool} (q : List Nat) (h : q.all p = false) :
    ∃ d c r, q = d ++ c :: r ∧ (∀ x ∈ d, p x = true) ∧ p c = false := by
  have hne := dropWhile_ne_nil h
  obtain ⟨c, r, e⟩ := List.exists_cons_of_ne_nil hne
  refine ⟨q.takeWhile p, c, r, by rw [← e, List.takeWhile_append_dropWhile], List.all_eq_true.mp List.all_takeWhile, ?_⟩
  simpa [e] using List.head_dropWhile_not p hne

/-- the numbers of symbols `pack` makes bytes of: a full quantum, or what 1, 2, 3 or 4 bytes leave in the last one -/
def okLen (n : Nat) : Bool := n == 2 || n == 4 || n == 5 || n == 7 || n == 8

theorem pack_isSome (d : List Nat) : (pack d).isSome = okLen d.length := by
  rcases d with _ | ⟨a0, _ | ⟨a1, _ | ⟨a2, _ | ⟨a3, _ | ⟨a4, _ | ⟨a5, _ | ⟨a6, _ | ⟨a7, _ | ⟨a8, r⟩⟩⟩⟩⟩⟩⟩⟩⟩ <;>
    simp [pack, okLen]

theorem decodeLoop_step (f : Nat) (s : List Nat) (hs : s ≠ []) :
    decodeLoop (f + 1) s = (readQ 8 0 s []).bind fun (d, rest, fin) =>
      (pack d).bind fun bytes => if fin then some bytes else (decodeLoop f rest).map (bytes ++ ·) := by
  rw [decodeLoop]
  · cases readQ 8 0 s [] with
    | none => rfl
    | some r => obtain ⟨d, rest, fin⟩ := r; simp only [Option.bind_some]; cases pack d <;> rfl
  · exact fun h => hs h

theorem decodeLoop_syms (f : Nat) (q rest : List Nat) (hq : q.length = 8) (hs : ∀ c ∈ q, isSym c = true) :
    decodeLoop (f + 1) (q ++ rest) = (pack (q.filterMap sym)).bind fun bytes => (decodeLoop f rest).map (bytes ++ ·) := by
  have h := readQ_syms rest [] 0 0 hs
  rw [Nat.add_zero, hq] at h
  rw [decodeLoop_step _ _ (List.append_ne_nil_of_left_ne_nil (List.ne_nil_of_length_eq_add_one hq) _), h]
  rfl

theorem decodeLoop_bad (f : Nat) (q rest : List Nat) (hq : q.length = 8) (hr : 8 ≤ rest.length) (hb : q.all isSym = false) :
    decodeLoop (f + 1) (q ++ rest) = none := by
  obtain ⟨d, c, r, rfl, hd, hc⟩ := exists_first_not q hb
  rw [decodeLoop_step _ _ (by simp), ← hq, List.length_append, List.length_cons, List.append_assoc, readQ_syms _ _ _ _ hd,
    List.cons_append, readQ_stop _ _ _ _ hc, if_neg (by simp only [List.length_append]; omega)]
  rfl

/-- fuel `f + 2`: one step reads `q`, and when `q` has no '=' one more sees the empty rest and stops -/
theorem decodeLoop_last (f : Nat) (q : List Nat) (hq : q.length = 8) :
    decodeLoop (f + 2) q =
      if (q.dropWhile isSym).all (· == PAD) then pack ((q.takeWhile isSym).filterMap sym) else none := by
  have hd := List.takeWhile_append_dropWhile (p := isSym) (l := q)
  have hsym : ∀ x ∈ q.takeWhile isSym, isSym x = true := List.all_eq_true.mp List.all_takeWhile
  have hfl := filterMap_sym_length _ hsym
  have hstop := List.head_dropWhile_not isSym (l := q)
  generalize q.takeWhile isSym = d at *
  generalize q.dropWhile isSym = p at *
  subst hd
  cases p with
  | nil =>
    rw [List.append_nil] at hq
    rw [decodeLoop_syms (f + 1) d [] hq hsym]
    cases pack (d.filterMap sym) <;> simp [decodeLoop]
  | cons c p' =>
    rw [List.length_append] at hq
    rw [decodeLoop_step _ _ (by simp), show 8 = d.length + (c :: p').length from hq.symm, readQ_syms _ _ _ _ hsym]
    rw [List.length_cons, readQ_stop _ _ _ _ (by simpa using hstop (by simp))]
    simp only [List.length_cons, Nat.zero_add, List.nil_append, List.all_cons, Bool.and_eq_true, beq_iff_eq] at hq ⊢
    rw [List.take_of_length_le (by omega)]
    by_cases hall : c = PAD ∧ p'.all (· == PAD) = true
    · rw [if_pos hall]
      split
      · simp only [Option.bind_some]; cases pack (List.filterMap sym d) <;> rfl
      · next hl =>
        -- `readQ` refuses 0, 1, 3 or 6 symbols before the '='; so does `pack`
        cases hpk : pack (List.filterMap sym d) with
        | none => rfl
        | some _ =>
          have : okLen (d.filterMap sym).length = true := (pack_isSome _).symm.trans (by rw [hpk]; rfl)
          simp only [hfl, okLen, Bool.or_eq_true, beq_iff_eq] at this
          have : 2 ≤ d.length ∧ p'.length < 8 ∧ 7 ≤ p'.length + d.length ∧ d.length ≠ 3 ∧ d.length ≠ 6 := by omega
          exact absurd ⟨hall.1, this.1, this.2.1, this.2.2.1, hall.2, this.2.2.2⟩ hl
    · rw [if_neg hall, if_neg (fun h => hall ⟨h.1, h.2.2.2.2.1⟩)]
      rfl

/-- the numbers of '=' a quantum can end with (0, 1, 3, 4, 6): those that leave a number of symbols that `pack` takes -/
def okPad (n : Nat) : Bool := okLen (8 - n)

theorem okPad_lt (n : Nat) (h : okPad n = true) : n < 8 := by
  simp only [okPad, okLen, Bool.or_eq_true, beq_iff_eq] at h; omega

def accShape (s : List Nat) : Bool :=
  let p := s.dropWhile isSym
  p.all (· == PAD) && okPad p.length

theorem decodeLoop_last_isSome (f : Nat) (q : List Nat) (hq : q.length = 8) : (decodeLoop (f + 2) q).isSome = accShape q := by
  have hd : (q.takeWhile isSym).length + (q.dropWhile isSym).length = 8 := by
    rw [← List.length_append, List.takeWhile_append_dropWhile, hq]
  rw [decodeLoop_last f q hq, accShape]
  cases ((q.dropWhile isSym).all (· == PAD))
  · rfl
  · rw [if_pos rfl, pack_isSome, filterMap_sym_length _ (List.all_eq_true.mp List.all_takeWhile), Bool.true_and, okPad]
    congr 1; omega

theorem dropWhile_append_notall (q rest : List Nat) (h : q.all isSym = false) :
    rest.length + 1 ≤ ((q ++ rest).dropWhile isSym).length := by
  have hne := dropWhile_ne_nil h
  rw [List.dropWhile_append, if_neg (by simpa using hne), List.length_append]
  have := List.length_pos_iff.mpr hne; omega

theorem decodeLoop_isSome : ∀ (fuel : Nat) (s : List Nat), s.length % 8 = 0 → s.length / 8 + 2 ≤ fuel →
    (decodeLoop fuel s).isSome = accShape s := by
  intro fuel
  induction fuel with
  | zero => intro s _ hf; omega
  | succ fuel ih =>
    intro s h8 hf
    by_cases h0 : s = []
    · subst h0; rfl
    by_cases hl : s.length = 8
    · obtain ⟨f, rfl⟩ : ∃ f, fuel = f + 1 := ⟨fuel - 1, by rw [hl] at hf; omega⟩
      exact decodeLoop_last_isSome f s hl
    · have hlen : 16 ≤ s.length := by have := List.length_pos_iff.mpr h0; omega
      have hq : (s.take 8).length = 8 := by rw [List.length_take]; omega
      have hr : 8 ≤ (s.drop 8).length := by rw [List.length_drop]; omega
      rw [← List.take_append_drop 8 s]
      cases hall : (s.take 8).all isSym with
      | true =>
        have hs := List.all_eq_true.mp hall
        obtain ⟨bytes, hb⟩ := Option.isSome_iff_exists.mp
          ((pack_isSome _).trans (by rw [filterMap_sym_length _ hs, hq]; rfl))
        rw [decodeLoop_syms _ _ _ hq hs, hb, Option.bind_some, Option.isSome_map,
          ih _ (by rw [List.length_drop]; omega) (by rw [List.length_drop]; omega), accShape, accShape,
          List.dropWhile_append_of_pos hs]
      | false =>
        -- a quantum that is not the last and holds a non-symbol: the decoder refuses, and `accShape` does too, since from
        -- that character on there are more than 8 characters, too many to be an admissible run of '='
        have := dropWhile_append_notall _ (s.drop 8) hall
        rw [decodeLoop_bad _ _ _ hq hr hall, accShape]
        cases h : okPad ((s.take 8 ++ s.drop 8).dropWhile isSym).length
        · rw [Bool.and_false]; rfl
        · have := okPad_lt _ h; omega

theorem decode_eq_loop (s : List Nat) (h : ∀ c ∈ s, isEncChar c) : decode s = decodeLoop (s.length / 8 + 2) s := by
  unfold decode
  rw [List.filter_eq_self.mpr fun c hc => decide_eq_true (by have := (isEncChar_iff c).mp (h c hc); omega)]

end OtpVerif.Lemmas.B32

/-
C04 — TOTP validation accepts exactly the codes of time steps inside the skew window; work is bounded.
-/
import OtpVerif.Lemmas.Otp
import OtpVerif.Props.C02

namespace OtpVerif.Props.C04
open OtpVerif OtpVerif.Model OtpVerif.Lemmas OtpVerif.Props.C02

/-- C04 without the side condition `s ≤ n` (any instant from the epoch on): the accepted strings are exactly the codes of
the steps `(n + j) mod 2^64`, `-s ≤ j ≤ s` — within the first `s` periods after the epoch the window continues at the top of
the 64-bit range (what `counter + uint64(i)` computes; the js/wasm binding must do the same, C20).  Outside the
property's stated domain; stated so that the loop as written is characterised for every instant. -/
theorem C04_iff_wrap (O : HashOracle) (s k code : Bytes) (sec : Int) (p : Option Param)
    (hs : decodeSecret s = .ok k) (hsk : (resolveTOTP p).skew ≤ 10)
    (h0 : 0 ≤ sec) (h1 : sec < 2 ^ 63) (hP : per p < 2 ^ 64)
    (hd1 : 1 ≤ (resolveTOTP p).digits) (hd2 : (resolveTOTP p).digits ≤ 10) (ha : (resolveTOTP p).algo < 3) :
    (validateTOTP O s code sec p = .ok (true, none) ↔
      ∃ j : Int, -((resolveTOTP p).skew : Int) ≤ j ∧ j ≤ (resolveTOTP p).skew ∧
        code = Spec.hotp O.hmac (resolveTOTP p).algo k (((((sec.toNat / per p : Nat) : Int) + j) % (2 ^ 64 : Int)).toNat)
          (resolveTOTP p).digits) ∧
    (validateTOTP O s code sec p = .ok (true, none) ∨ validateTOTP O s code sec p = .ok (false, some .invalidCode)) := by
  refine ok_iff verdictOf (validateTOTP_ok O s k code sec p hs hsk hP) (by decide) ?_
  simp only [per, toU64_nonneg sec h0 (by omega), List.any_eq_true, mem_span, decide_eq_true_eq, hd1, hd2, ha, and_self, true_and, and_assoc]

/-- C04, main clause: at an instant with step n = ⌊t/p⌋, skew s ≤ 10 and s ≤ n (the whole window lies at or
after step 0), validation returns `(true, nil)` iff the submitted string is byte-for-byte the code of a
step n' with |n' − n| ≤ s; otherwise `(false, ErrInvalidCode)` -/
theorem C04_iff (O : HashOracle) (s k code : Bytes) (sec : Int) (p : Option Param)
    (hs : decodeSecret s = .ok k) (hsk : (resolveTOTP p).skew ≤ 10)
    (h0 : 0 ≤ sec) (h1 : sec < 2 ^ 63) (hP : per p < 2 ^ 64)
    (hwin : (resolveTOTP p).skew ≤ sec.toNat / per p)
    (hd1 : 1 ≤ (resolveTOTP p).digits) (hd2 : (resolveTOTP p).digits ≤ 10) (ha : (resolveTOTP p).algo < 3) :
    (validateTOTP O s code sec p = .ok (true, none) ↔
      ∃ n', sec.toNat / per p - (resolveTOTP p).skew ≤ n' ∧ n' ≤ sec.toNat / per p + (resolveTOTP p).skew ∧
        code = Spec.hotp O.hmac (resolveTOTP p).algo k n' (resolveTOTP p).digits) ∧
    (validateTOTP O s code sec p = .ok (true, none) ∨ validateTOTP O s code sec p = .ok (false, some .invalidCode)) := by
  have h := C04_iff_wrap O s k code sec p hs hsk h0 h1 hP hd1 hd2 ha
  have hn : sec.toNat / per p + (resolveTOTP p).skew < 2 ^ 64 := by
    have : sec.toNat / per p ≤ sec.toNat := Nat.div_le_self _ _
    omega
  refine ⟨h.1.trans (Iff.trans ?_ (window_plain (code = Spec.hotp O.hmac _ k · _) _ _ hn)), h.2⟩
  -- with `s ≤ n` no offset of the window reaches below step 0
  exact exists_congr fun j => ⟨fun ⟨a, b, c⟩ => ⟨a, b, by omega, c⟩, fun ⟨a, b, _, c⟩ => ⟨a, b, c⟩⟩

/-- a code validates at the instant it was generated for -/
theorem C04_self (O : HashOracle) (s k : Bytes) (sec : Int) (p : Option Param)
    (hs : decodeSecret s = .ok k) (hsk : (resolveTOTP p).skew ≤ 10)
    (h0 : 0 ≤ sec) (h1 : sec < 2 ^ 63) (hP : per p < 2 ^ 64)
    (hwin : (resolveTOTP p).skew ≤ sec.toNat / per p)
    (hd1 : 1 ≤ (resolveTOTP p).digits) (hd2 : (resolveTOTP p).digits ≤ 10) (ha : (resolveTOTP p).algo < 3)
    (code : Bytes) (hg : generateTOTP O s sec p = .ok code) :
    validateTOTP O s code sec p = .ok (true, none) := by
  rw [C02_totp_eq_rfc O s k sec p hs h0 h1 hP hd1 hd2 ha] at hg
  injection hg with hg
  exact (C04_iff O s k code sec p hs hsk h0 h1 hP hwin hd1 hd2 ha).1.mpr ⟨sec.toNat / per p, by omega, by omega, hg.symm⟩

/-- a skew above the documented maximum of 10 is refused -/
theorem C04_skew_refused (O : HashOracle) (s code : Bytes) (sec : Int) (p : Option Param)
    (h : 10 < (resolveTOTP p).skew) : validateTOTP O s code sec p = .ok (false, some .invalidSkew) := by
  unfold validateTOTP
  simp only
  rw [if_pos h]

/-- cost-instrumented twin of the window loop: number of per-counter checks (= HMAC computations) performed -/
def windowCalls (probe : Int → Out Bool) (hi : Int) : Nat → Int → Nat
  | 0, _ => 0
  | fuel + 1, i =>
    if i > hi then 0
    else match probe i with
      | .ok false => 1 + windowCalls probe hi fuel (i + 1)
      | _ => 1

theorem windowCalls_le (probe : Int → Out Bool) (hi : Int) : ∀ fuel i, windowCalls probe hi fuel i ≤ fuel := by
  intro fuel
  induction fuel with
  | zero => intro i; simp [windowCalls]
  | succ n ih =>
    intro i
    unfold windowCalls
    split
    · omega
    · split
      · have := ih (i + 1); omega
      · omega

/-- C04, work bound: whatever the arguments, a call performs at most 2·10+1 = 21 HMAC computations
(the loop is entered only with skew ≤ 10 and its fuel is 2·skew+1) -/
theorem C04_work (probe : Int → Out Bool) (skew : Nat) (h : skew ≤ 10) :
    windowCalls probe (skew : Int) (2 * skew + 1) (-(skew : Int)) ≤ 21 := by
  have := windowCalls_le probe (skew : Int) (2 * skew + 1) (-(skew : Int))
  omega

/-- the fuel is sufficient: the loop never stops for lack of fuel (it ends by `i > hi` or by a match) -/
theorem C04_fuel (probe : Int → Out Bool) (pb : Int → Bool) (hp : ∀ i, probe i = .ok (pb i)) (skew : Nat) :
    windowLoop probe (skew : Int) (2 * skew + 1) (-(skew : Int)) = .ok true ↔
      ∃ j : Int, -(skew : Int) ≤ j ∧ j ≤ skew ∧ pb j = true :=
  (windowLoop_iff probe pb hp (skew : Int) (2 * skew + 1) (-(skew : Int)) (by omega)).1

/-- absent parameters mean 6 digits, SHA-1, 30 s, skew 0; period 0 means 30 s -/
theorem C04_nil : resolveTOTP none = { digits := 6, period := 30, skew := 0, algo := 0 } ∧ effPeriod 0 = 30 :=
  ⟨C02_defaults.1, C02_defaults.2.1⟩

example : (resolveTOTP none).skew ≤ (59 : Int).toNat / per none := by decide

-- non-vacuity of the wrap clause: at step 0 the offset -1 reaches step 2^64-1
example : ((((0 : Nat) : Int) + (-1)) % (2 ^ 64 : Int)).toNat = 2 ^ 64 - 1 := by decide

end OtpVerif.Props.C04

#print axioms OtpVerif.Props.C04.C04_iff
#print axioms OtpVerif.Props.C04.C04_iff_wrap
#print axioms OtpVerif.Props.C04.C04_self
#print axioms OtpVerif.Props.C04.C04_skew_refused
#print axioms OtpVerif.Props.C04.C04_work
#print axioms OtpVerif.Props.C04.C04_fuel
#print axioms OtpVerif.Props.C04.C04_nil

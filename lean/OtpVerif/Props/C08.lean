/-
C08 — random secrets are full-length CSPRNG output, base32-encoded without padding.
The random source is modelled as the byte stream `rand.Reader` will deliver (arbitrary); that the real
code reads exactly from `crypto/rand.Reader` and nothing else is what the `rnd` correspondence op checks
(the harness substitutes the reader and records what is consumed, also in short chunks).
-/
import OtpVerif.Props.C07
import OtpVerif.Props.C01
import OtpVerif.Model.Utils
import OtpVerif.Lemmas.Base32Spec

namespace OtpVerif.Props.C08
open OtpVerif OtpVerif.Std OtpVerif.Model OtpVerif.Lemmas OtpVerif.Props.C07

/-- the unpadded encoding as text (what `RandomSecret` returns) -/
def encNoPadB (b : Bytes) : Bytes := (B32.encNoPad (b.map UInt8.toNat)).map Nat.toUInt8

theorem encB_eq_noPad (b : Bytes) : encB b = encNoPadB b ++ List.replicate (B32.padAmt (encNoPadB b).length) 61 := by
  unfold encB encNoPadB
  rw [B32.enc_eq_noPad, List.map_append, List.length_map, List.map_replicate]; rfl

theorem caseVariant_refl : ∀ s : Bytes, CaseVariant s s
  | [] => .nil
  | c :: s => .keep c (caseVariant_refl s)

theorem noPad_spelling (b : Bytes) : Spelling b (encNoPadB b) :=
  ⟨⟨encNoPadB b, B32.padAmt (encNoPadB b).length, 0, encNoPadB b, [], [], encB_eq_noPad b, Nat.mod_lt _ (by decide), Nat.zero_le _,
    by simpa using caseVariant_refl (encNoPadB b), by simp, by simp, by simp⟩⟩

/-- the text `RandomSecret` returns is the RFC 4648 base32 encoding in the bit-wise sense of the Spec layer -/
theorem C08_enc_spec (b : Bytes) : encNoPadB b = Spec.b32NoPad b := (Lemmas.B32Spec.b32NoPad_eq b).symm

/-- C07 / C08: the padded encoding used in `C07_spellings` is the Spec layer's RFC 4648 encoding -/
theorem C07_enc_rfc4648 (b : Bytes) : encB b = Spec.b32 b := by
  rw [encB_eq_noPad, C08_enc_spec]; rfl

/-- C08: for a supported hash the secret is exactly the next 20/32/64 bytes of the random stream, unmodified,
each used once (the rest of the stream is untouched), returned as unpadded base32 -/
theorem C08_bytes (a : Nat) (st : Bytes) (ha : a < 3) (hn : hashLen a ≤ st.length) :
    randomSecret a st = (.ok (encNoPadB (st.take (hashLen a))), st.drop (hashLen a)) := by
  unfold randomSecret
  rw [if_neg (by omega)]
  simp only
  rw [if_neg (by omega)]
  rfl

theorem hashLen_vals (a : Nat) (ha : a < 3) : hashLen a = 20 ∨ hashLen a = 32 ∨ hashLen a = 64 := by
  have : a = 0 ∨ a = 1 ∨ a = 2 := by omega
  rcases this with h | h | h <;> subst h <;> simp [hashLen]

/-- … that secret decoding maps back to those bytes -/
theorem C08_decode (b : Bytes) : decodeSecret (encNoPadB b) = .ok b := C07_spellings b _ (noPad_spelling b)

/-- … upper-case and without '=' -/
theorem C08_text (b : Bytes) : ∀ c ∈ encNoPadB b, (65 ≤ c.toNat ∧ c.toNat ≤ 90) ∨ (50 ≤ c.toNat ∧ c.toNat ≤ 55) := by
  intro c hc
  obtain ⟨n, hn, rfl⟩ := List.mem_map.mp hc
  have := (B32.isSym_iff n).mp (B32.encNoPad_chars _ (map_toNat_lt b) n hn)
  rw [toUInt8_toNat n (by omega)]
  exact this

/-- C08: an unsupported hash yields an error and no secret, and consumes nothing -/
theorem C08_unsupported (a : Nat) (st : Bytes) (ha : 3 ≤ a) : randomSecret a st = (.err .unsupportedAlgorithm, st) := by
  unfold randomSecret; rw [if_pos ha]

/-- a history of calls: results in order, and the stream that remains -/
def runCalls : List Nat → Bytes → List (Out Bytes) × Bytes
  | [], st => ([], st)
  | a :: as, st =>
    let r := randomSecret a st
    let rest := runCalls as r.2
    (r.1 :: rest.1, rest.2)

/-- consecutive segments of the stream, one per call -/
def segments : List Nat → Bytes → List Bytes
  | [], _ => []
  | a :: as, st => st.take (hashLen a) :: segments as (st.drop (hashLen a))

def total (as : List Nat) : Nat := (as.map hashLen).sum

/-- C08, histories: any sequence of calls (supported hashes, enough stream) returns the encodings of
consecutive, disjoint segments of the stream – each byte used exactly once, in order – and leaves the rest -/
theorem C08_history : ∀ (as : List Nat) (st : Bytes), (∀ a ∈ as, a < 3) → total as ≤ st.length →
    (runCalls as st).1 = (segments as st).map (fun seg => Out.ok (encNoPadB seg)) ∧
    (runCalls as st).2 = st.drop (total as) ∧
    (segments as st).flatten = st.take (total as) := by
  intro as
  induction as with
  | nil => intro st _ _; simp [runCalls, segments, total]
  | cons a as ih =>
    intro st ha hl
    rw [List.forall_mem_cons] at ha
    have htot : total (a :: as) = hashLen a + total as := List.sum_cons
    rw [htot] at hl ⊢
    obtain ⟨h1, h2, h3⟩ := ih (st.drop (hashLen a)) ha.2 (by rw [List.length_drop]; omega)
    rw [runCalls, segments, C08_bytes a st ha.1 (by omega)]
    exact ⟨by rw [h1]; rfl, by rw [h2, List.drop_drop], by rw [List.flatten_cons, h3, List.take_add]⟩

example : (randomSecret 0 (List.replicate 25 7)).2 = List.replicate 5 7 := by decide
example : total [0, 2, 1] = 116 := by decide

/-- C08 ∘ C07 ∘ C01 (what a fresh secret is for): the text `RandomSecret` returns is accepted by every entry point, and the
code generated from it is the RFC 4226 value under exactly the bytes taken from the random source -/
theorem C08_usable (O : HashOracle) (a : Nat) (st : Bytes) (ha : a < 3) (hn : hashLen a ≤ st.length)
    (c : Nat) (p : Option Param) (hd1 : 1 ≤ (resolveHOTP p).digits) (hd2 : (resolveHOTP p).digits ≤ 10)
    (hpa : (resolveHOTP p).algo < 3) :
    ∃ text, (randomSecret a st).1 = .ok text ∧
      generateHOTP O text c p = .ok (Spec.hotp O.hmac (resolveHOTP p).algo (st.take (hashLen a)) c (resolveHOTP p).digits) := by
  refine ⟨encNoPadB (st.take (hashLen a)), ?_, ?_⟩
  · rw [C08_bytes a st ha hn]
  · exact Props.C01.C01_generate_eq_rfc O _ _ c p (C08_decode _) hd1 hd2 hpa

end OtpVerif.Props.C08

#print axioms OtpVerif.Props.C08.C08_bytes
#print axioms OtpVerif.Props.C08.C08_decode
#print axioms OtpVerif.Props.C08.C08_text
#print axioms OtpVerif.Props.C08.C08_unsupported
#print axioms OtpVerif.Props.C08.C08_history
#print axioms OtpVerif.Props.C08.C08_enc_spec
#print axioms OtpVerif.Props.C08.C07_enc_rfc4648
#print axioms OtpVerif.Props.C08.C08_usable

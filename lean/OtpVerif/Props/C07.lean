/-
C07 — every spelling of a base32 secret decodes to exactly the same key bytes.
-/
import OtpVerif.Lemmas.Trim
import OtpVerif.Lemmas.Base32
import OtpVerif.Lemmas.DecodeSecret
import OtpVerif.Lemmas.Ascii
import OtpVerif.Model.Otp
import OtpVerif.Model.Ocra

namespace OtpVerif.Props.C07
open OtpVerif OtpVerif.Std OtpVerif.Model OtpVerif.Lemmas

/-- the padded RFC 4648 base32 encoding of a byte string, as text -/
def encB (b : Bytes) : Bytes := (B32.enc (b.map UInt8.toNat)).map Nat.toUInt8

/-- per-character case choice: each character is kept or replaced by its ASCII lower-case form -/
inductive CaseVariant : Bytes → Bytes → Prop
  | nil : CaseVariant [] []
  | keep (c : UInt8) {s t : Bytes} : CaseVariant s t → CaseVariant (c :: s) (c :: t)
  | lower (c : UInt8) {s t : Bytes} : CaseVariant s t → CaseVariant (c :: s) (lowerAscii c :: t)

/-- `sp` is a spelling of the secret `b`: the encoding with between none and all of its trailing '=' kept,
any mixture of upper and lower case, surrounded by any ASCII white space -/
structure Spelling (b sp : Bytes) : Prop where
  ex : ∃ (data : Bytes) (npad j : Nat) (core ws1 ws2 : Bytes),
    encB b = data ++ List.replicate npad 61 ∧ npad < 8 ∧ j ≤ npad ∧
    CaseVariant (data ++ List.replicate j 61) core ∧
    (∀ c ∈ ws1, isAsciiSpace c = true) ∧ (∀ c ∈ ws2, isAsciiSpace c = true) ∧
    sp = ws1 ++ core ++ ws2

theorem encB_toNat (b : Bytes) : (encB b).map UInt8.toNat = B32.enc (b.map UInt8.toNat) :=
  map_toNat_toUInt8 _ fun n hn => by
    have := (B32.isEncChar_iff n).mp (B32.enc_chars _ (map_toNat_lt b) n hn)
    omega

theorem encB_chars (b : Bytes) : ∀ c ∈ encB b, B32.isEncChar c.toNat := by
  intro c hc
  exact B32.enc_chars _ (map_toNat_lt b) _ (by rw [← encB_toNat]; exact List.mem_map_of_mem hc)

theorem encB_length (b : Bytes) : (encB b).length % 8 = 0 := by
  unfold encB; rw [List.length_map, B32.enc_length]; omega

theorem enc_case (c : UInt8) (h : B32.isEncChar c.toNat) :
    upperAscii (lowerAscii c) = c ∧ upperAscii c = c ∧ secretCharOk c = true ∧ secretCharOk (lowerAscii c) = true := by
  rw [B32.isEncChar_iff] at h
  simp only [← UInt8.toNat_inj, secretCharOk, upperAscii_toNat, lowerAscii_toNat, Bool.or_eq_true, Bool.and_eq_true, decide_eq_true_eq]
  by_cases hu : 65 ≤ c.toNat ∧ c.toNat ≤ 90
  · rw [if_pos hu, if_pos (by omega), if_neg (by omega)]; omega
  · rw [if_neg hu, if_neg (by omega)]; omega

theorem caseVariant_facts {s t : Bytes} (h : CaseVariant s t) (hs : ∀ c ∈ s, B32.isEncChar c.toNat) :
    toUpperAscii t = s ∧ (∀ c ∈ t, secretCharOk c = true) := by
  induction h with
  | nil => simp [toUpperAscii]
  | keep c _ ih =>
    obtain ⟨h2, h3⟩ := ih (fun x hx => hs x (by simp [hx]))
    obtain ⟨-, hu, hk, -⟩ := enc_case c (hs c (by simp))
    exact ⟨by simpa [toUpperAscii, hu] using h2, List.forall_mem_cons.mpr ⟨hk, h3⟩⟩
  | lower c _ ih =>
    obtain ⟨h2, h3⟩ := ih (fun x hx => hs x (by simp [hx]))
    obtain ⟨hu, -, -, hk⟩ := enc_case c (hs c (by simp))
    exact ⟨by simpa [toUpperAscii, hu] using h2, List.forall_mem_cons.mpr ⟨hk, h3⟩⟩

theorem decodeSecret_of_upper (s b : Bytes) (hok : (trimSpace s).all secretCharOk = true)
    (h : toUpperAscii (repad (trimSpace s)) = encB b) : decodeSecret s = .ok b := by
  rw [Dec.decodeSecret_eq, if_pos hok, ← Dec.decoder_input, h, encB_toNat, B32.decode_enc _ (map_toNat_lt b)]
  exact congrArg _ (map_toUInt8_toNat b)

/-- C07, main clause: every spelling of (the encoding of) a byte string decodes to exactly those bytes -/
theorem C07_spellings (b sp : Bytes) (h : Spelling b sp) : decodeSecret sp = .ok b := by
  obtain ⟨data, npad, j, core, ws1, ws2, henc, hn8, hj, hcv, hw1, hw2, rfl⟩ := h.ex
  have hdata : ∀ c ∈ data ++ List.replicate j 61, B32.isEncChar c.toNat :=
    List.forall_mem_append.mpr ⟨fun c h => encB_chars b c (by rw [henc]; exact List.mem_append_left _ h),
      List.forall_mem_replicate.mpr (.inr (.inr rfl))⟩
  obtain ⟨hup, hok⟩ := caseVariant_facts hcv hdata
  have hlen : core.length = (data ++ List.replicate j 61).length := by rw [← hup, toUpperAscii, List.length_map]
  have htrim := trimSpace_strip ws1 core ws2 hw1 hw2 hok
  refine decodeSecret_of_upper _ b (by rw [htrim]; exact List.all_eq_true.mpr hok) ?_
  -- the re-padding restores exactly the canonical padding
  have hl8 := encB_length b
  rw [henc] at hl8
  simp only [List.length_append, List.length_replicate] at hl8 hlen
  rw [htrim, Dec.repad_eq, hlen, henc, toUpperAscii, List.map_append, ← toUpperAscii, hup, List.append_assoc, List.map_replicate,
    show upperAscii 61 = 61 from rfl, List.replicate_append_replicate]
  congr 2; unfold B32.padAmt; omega

open OtpVerif.Lemmas.Dec in
/-- C07, rejection clause in full: `DecodeSecret` succeeds **iff** the trimmed text is data characters followed by
'=' signs with a possible number of data characters (≡ 0, 2, 4, 5, 7 mod 8) and no more '=' than the canonical
padding; every other text is answered with the `badSecret` error (no panic, no partial result). -/
theorem C07_accept_iff (s : Bytes) : (∃ b, decodeSecret s = .ok b) ↔ Accept (trimSpace s) :=
  decodeSecret_accept_iff s

open OtpVerif.Lemmas.Dec in
theorem C07_reject_otherwise (s : Bytes) (h : ¬ Accept (trimSpace s)) : decodeSecret s = .err .badSecret := by
  rcases decodeSecret_err_or_ok s with h' | h'
  · exact h'
  · exact absurd ((C07_accept_iff s).mp h') h

/-- C07, rejection clause (alphabet): after trimming, any character outside A–Z a–z 2–7 '=' makes decoding fail -/
theorem C07_reject_alphabet (s : Bytes) (h : ∃ c ∈ trimSpace s, secretCharOk c = false) :
    ∃ e, decodeSecret s = .err e := by
  obtain ⟨c, hc, hbad⟩ := h
  refine ⟨.badSecret, C07_reject_otherwise s fun ha => ?_⟩
  rw [List.all_eq_true.mp (Dec.accept_all_ok _ ha) c hc] at hbad
  cases hbad

open OtpVerif.Lemmas.Dec in
/-- impossible lengths: 1, 3 or 6 (mod 8) data characters, with any number of '=' after them -/
theorem C07_reject_length (s data : Bytes) (j : Nat) (ht : trimSpace s = data ++ List.replicate j 61)
    (hd : ∀ c ∈ data, isDataChar c = true) (hl : data.length % 8 = 1 ∨ data.length % 8 = 3 ∨ data.length % 8 = 6) :
    decodeSecret s = .err .badSecret := by
  apply C07_reject_otherwise
  rw [ht, accept_split data j hd, okCount]; omega

open OtpVerif.Lemmas.Dec in
/-- padding in the middle: a '=' followed, anywhere later, by a character that is not '=' -/
theorem C07_reject_midpad (s a b d : Bytes) (c : UInt8) (ht : trimSpace s = a ++ 61 :: (b ++ c :: d)) (hc : c ≠ 61) :
    decodeSecret s = .err .badSecret := by
  apply C07_reject_otherwise
  rw [accept_iff_span]
  rintro ⟨h, -⟩
  have hmem : c ∈ (trimSpace s).dropWhile isDataChar := by
    rw [ht]; exact mem_dropWhile_append a (b ++ c :: d) 61 rfl c (by simp)
  rw [h] at hmem
  exact hc (List.eq_of_mem_replicate hmem)

open OtpVerif.Lemmas.Dec in
/-- too much padding: more '=' than the canonical amount is rejected as well (e.g. "MFRGG====") -/
theorem C07_reject_overpad (s data : Bytes) (j : Nat) (ht : trimSpace s = data ++ List.replicate j 61)
    (hd : ∀ c ∈ data, isDataChar c = true) (hj : (8 - data.length % 8) % 8 < j) :
    decodeSecret s = .err .badSecret := by
  apply C07_reject_otherwise
  rw [ht, accept_split data j hd, okCount]; omega

/-- every entry point sees the key only through `decodeSecret`: two texts that decode alike give equal results -/
theorem C07_entrypoints (O : HashOracle) (s s' : Bytes) (h : decodeSecret s = decodeSecret s') :
    (∀ c p, generateHOTP O s c p = generateHOTP O s' c p) ∧
    (∀ code c p, validateHOTP O s code c p = validateHOTP O s' code c p) ∧
    (∀ t p, generateTOTP O s t p = generateTOTP O s' t p) ∧
    (∀ code t p, validateTOTP O s code t p = validateTOTP O s' code t p) ∧
    (∀ cfg i, generateOCRA O s cfg i = generateOCRA O s' cfg i) ∧
    (∀ code cfg i, validateOCRA O s code cfg i = validateOCRA O s' code cfg i) := by
  refine ⟨?_, ?_, ?_, ?_, ?_, ?_⟩ <;> intros <;>
    simp only [generateHOTP, validateHOTP, generateTOTP, validateTOTP, generateOCRA, validateOCRA, h]

/-- hence all spellings of one secret give the same code at every entry point -/
theorem C07_same_code (O : HashOracle) (b sp sp' : Bytes) (h : Spelling b sp) (h' : Spelling b sp') (c : Nat) (p : Option Param) :
    generateHOTP O sp c p = generateHOTP O sp' c p :=
  (C07_entrypoints O sp sp' (by rw [C07_spellings b sp h, C07_spellings b sp' h'])).1 c p

-- non-vacuity: " mfRGG=\n" is a spelling of "abc" (encoding "MFRGG===")
example : encB [97, 98, 99] = [77, 70, 82, 71, 71, 61, 61, 61] := by decide
example : Spelling [97, 98, 99] [32, 109, 102, 82, 71, 71, 61, 10] :=
  ⟨⟨[77, 70, 82, 71, 71], 3, 1, [109, 102, 82, 71, 71, 61], [32], [10], by decide, by decide, by decide,
    .lower 77 (.lower 70 (.keep 82 (.keep 71 (.keep 71 (.keep 61 .nil))))), by decide, by decide, by decide⟩⟩
example : decodeSecret [32, 109, 102, 82, 71, 71, 61, 10] = .ok [97, 98, 99] := by decide
example : decodeSecret [77, 70, 82, 196, 177, 71] = .err .badSecret := by decide   -- U+0131 inside
-- the hypotheses of the rejection theorems are satisfiable: "MFR" (3 data characters), "MF=RGG" (inner '='), "MFRGG===="
example : decodeSecret [77, 70, 82] = .err .badSecret :=
  C07_reject_length [77, 70, 82] [77, 70, 82] 0 (by decide) (by decide) (by decide)
example : decodeSecret [77, 70, 61, 82, 71, 71] = .err .badSecret :=
  C07_reject_midpad [77, 70, 61, 82, 71, 71] [77, 70] [] [71, 71] 82 (by decide) (by decide)
example : decodeSecret [77, 70, 82, 71, 71, 61, 61, 61, 61] = .err .badSecret :=
  C07_reject_overpad _ [77, 70, 82, 71, 71] 4 (by decide) (by decide) (by decide)

end OtpVerif.Props.C07

#print axioms OtpVerif.Props.C07.C07_spellings
#print axioms OtpVerif.Props.C07.C07_reject_alphabet
#print axioms OtpVerif.Props.C07.C07_accept_iff
#print axioms OtpVerif.Props.C07.C07_reject_otherwise
#print axioms OtpVerif.Props.C07.C07_reject_length
#print axioms OtpVerif.Props.C07.C07_reject_midpad
#print axioms OtpVerif.Props.C07.C07_reject_overpad
#print axioms OtpVerif.Props.C07.C07_entrypoints
#print axioms OtpVerif.Props.C07.C07_same_code

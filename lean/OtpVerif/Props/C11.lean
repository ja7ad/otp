/-
C11 — results depend only on arguments, under any concurrency and call history  (PARTIAL: see DESIGN.md).
(a) pool / ownership protocol: for unboundedly many threads, arbitrary interleavings, GCs emptying the pool
    and an adversary that takes, scribbles and returns buffers, a thread's callee reads from its buffer
    exactly what that thread itself wrote;
(b) stale data: whatever the pooled buffer contained when it was obtained (left by *any* history of earlier
    calls or by an adversary), the assembled OCRA message – hence the code – is the same;
(c) regenerated program facts: the pool operations of each function that uses a pool satisfy `PoolProto.protocolOk`
    (one Get, one Put of the same pool, written before read, never handed to code that may keep it) and such a
    list is a behaviour of the abstract machine (`C11_protocol_refines`); nothing is stored into
    package-level state outside `init`, no returned string is a view of pooled or shared memory;
(d) the models are functions of their arguments only (there is no state to depend on).
The Go memory model, sync.Pool's implementation and the scheduler are assumed to implement the abstraction;
the race-detector stress run of this check supports that and searches for a failing schedule.
-/
import OtpVerif.Model.Pool
import OtpVerif.Model.PoolProto
import OtpVerif.Props.C12

namespace OtpVerif.Props.C11
open OtpVerif OtpVerif.Model

/-- (a) exclusivity: in every reachable world no buffer is held by two threads, and a held buffer is not in the pool -/
theorem C11_exclusive {m w} (r : Pool.Reach m w) :
    (∀ i j a, i ≠ j → (w.threads i).held = some a → (w.threads j).held ≠ some a) ∧
    (∀ i a, (w.threads i).held = some a → a ∉ w.pool) :=
  ⟨(Pool.inv_reach r).excl, (Pool.inv_reach r).notIn⟩

/-- (a) a thread reads back what it wrote itself, whatever all other threads, the adversary and the GC did -/
theorem C11_read_own_write {m w} (r : Pool.Reach m w) (i a : Nat) (bs : Bytes)
    (hh : (w.threads i).held = some a) (hw : (w.threads i).wrote = some bs) : w.mem a = bs :=
  Pool.read_own_write r i a bs hh hw

/-- (b) history independence: two heaps that agree on caller memory but differ arbitrarily in the pooled
buffer's contents (stale data of earlier calls, adversarial scribbling) give the same message -/
theorem C11_stale_independent (h1 h2 : Mem.Heap) (pool : Mem.Slice) (cfg : SuiteConfig) (i : Mem.InputM)
    (hp1 : pool.off + pool.cap ≤ (h1.cells pool.addr).length) (hp2 : pool.off + pool.cap ≤ (h2.cells pool.addr).length)
    (hl1 : pool.addr < h1.next) (hl2 : pool.addr < h2.next)
    (hin1 : Lemmas.Mem.InputsOk h1 pool.addr i) (hin2 : Lemmas.Mem.InputsOk h2 pool.addr i)
    (hsame : Lemmas.Mem.inputOf h1 i = Lemmas.Mem.inputOf h2 i) :
    (Mem.assemble h1 pool cfg i).h.read (Mem.assemble h1 pool cfg i).msg =
    (Mem.assemble h2 pool cfg i).h.read (Mem.assemble h2 pool cfg i).msg := by
  rw [Props.C12.C12_refines h1 pool cfg i hp1 hl1 hin1, Props.C12.C12_refines h2 pool cfg i hp2 hl2 hin2, hsame]

open OtpVerif.Model.Mem OtpVerif.Lemmas.Mem in
/-- `binary.BigEndian.PutUint64(buf[:], counter)` on the pooled 8-byte array at address `buf` -/
def putCounterM (h : Heap) (buf : Nat) (counter : Nat) : Heap := h.write buf 0 (be8 counter)

open OtpVerif.Model.Mem OtpVerif.Lemmas.Mem in
/-- (b') the HOTP / TOTP counter buffer: whatever the pooled 8-byte array held when it was obtained (stale bytes of any
earlier call, an adversary's scribbling), after the counter is written the HMAC reads exactly the 8-byte big-endian
counter, and no other memory changed -/
theorem C11_counter_buffer (h : Heap) (buf counter : Nat) (hlen : (h.cells buf).length = 8) :
    (putCounterM h buf counter).read ⟨buf, 0, 8, 8⟩ = be8 counter ∧
    (∀ a, a ≠ buf → (putCounterM h buf counter).cells a = h.cells a) := by
  refine ⟨?_, fun a ha => cells_write_ne _ _ _ _ ha⟩
  -- the write is an append to the empty slice `buf[0:0]` of capacity 8, read back through the extended slice `buf[0:8]`
  simpa [Heap.read, putCounterM] using read_write_extend h ⟨buf, 0, 0, 8⟩ (be8 counter) (by rw [hlen]; simp)

open OtpVerif.Model.Mem OtpVerif.Lemmas.Mem in
/-- in particular two heaps that differ arbitrarily in the pooled buffer give the HMAC the same input -/
theorem C11_counter_stale_independent (h1 h2 : Heap) (buf counter : Nat)
    (hl1 : (h1.cells buf).length = 8) (hl2 : (h2.cells buf).length = 8) :
    (putCounterM h1 buf counter).read ⟨buf, 0, 8, 8⟩ = (putCounterM h2 buf counter).read ⟨buf, 0, 8, 8⟩ := by
  rw [(C11_counter_buffer h1 buf counter hl1).1, (C11_counter_buffer h2 buf counter hl2).1]

/-- (c) the pool operations found in every function that uses a pool follow the protocol: one Get and one Put of the
same pool, the buffer is written before anything reads it, it is touched only between Get and Put, and it is never
handed to code that could keep it -/
theorem C11_pool_protocol : Gen.poolSites.all (fun s => PoolProto.protocolOk s.2.2) = true := by decide +kernel

/-- … and such an operation list, read as a thread program, is a behaviour of the abstract machine: it runs to
completion from any reachable world, through reachable worlds only (to which C11_exclusive applies) -/
theorem C11_protocol_refines {m w} (r : Pool.Reach m w) (i : Nat) (ops : List PoolProto.POp)
    (hok : PoolProto.protocolOk ops = true) (hn : (w.threads i).held = none) :
    ∃ w', PoolProto.Runs i (PoolProto.absProg ops) w w' ∧ Pool.Reach m w' ∧ (w'.threads i).held = none := by
  have hwb : PoolProto.wellBracketed (PoolProto.absProg ops) = true := by
    unfold PoolProto.protocolOk at hok
    simp only [Bool.and_eq_true] at hok
    exact hok.1.2
  obtain ⟨w', hr, hn'⟩ := PoolProto.wellBracketed_runs i _ hwb w hn
  exact ⟨w', hr, PoolProto.runs_reach i _ w w' r hr, hn'⟩

-- non-vacuity: the table is not empty and a double Put is refused
example : Gen.poolSites.length ≥ 2 := by decide
example : PoolProto.protocolOk [(0, [80]), (2, [80]), (5, []), (1, [80]), (7, [])] = false := by decide

def startsWith (p s : List Nat) : Bool := p.isPrefixOf s

/-- (c) nothing is written to package-level state outside `init` (no "store global:" / "mapupdate global:" /
"append global:" site exists), and no unsafe string view points at shared memory -/
theorem C11_readonly_globals :
    Gen.storeSites.all (fun s =>
      !(startsWith [115,116,111,114,101,32,103,108,111,98,97,108] s.2.2.1) &&          -- "store global"
      !(startsWith [109,97,112,117,112,100,97,116,101] s.2.2.1) &&                      -- "mapupdate"
      !(startsWith [97,112,112,101,110,100,32,103,108,111,98,97,108] s.2.2.1) &&        -- "append global"
      !(startsWith [99,111,112,121,32,103,108,111,98,97,108] s.2.2.1) &&                -- "copy global"
      !(startsWith [117,110,115,97,102,101,45,118,105,101,119] s.2.2.1)) = true := by decide +kernel   -- "unsafe-view"

/-- (d) the operation models have no hidden state: equal arguments give equal results (they are functions) -/
theorem C11_functional (O : HashOracle) (s : Bytes) (c : Nat) (p : Option Param) :
    ∀ history : List (Bytes × Nat × Option Param),
      (history.map (fun a => generateHOTP O a.1 a.2.1 a.2.2), generateHOTP O s c p).2 = generateHOTP O s c p := fun _ => rfl

end OtpVerif.Props.C11

#print axioms OtpVerif.Props.C11.C11_exclusive
#print axioms OtpVerif.Props.C11.C11_read_own_write
#print axioms OtpVerif.Props.C11.C11_stale_independent
#print axioms OtpVerif.Props.C11.C11_pool_protocol
#print axioms OtpVerif.Props.C11.C11_protocol_refines
#print axioms OtpVerif.Props.C11.C11_readonly_globals
#print axioms OtpVerif.Props.C11.C11_functional
#print axioms OtpVerif.Props.C11.C11_counter_buffer
#print axioms OtpVerif.Props.C11.C11_counter_stale_independent

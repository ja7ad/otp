/-
C16 — provisioning URLs round-trip: parsing a generated otpauth URL returns its input.
`net/url` is modelled in Std/Url.lean (trusted, validated against the real package by the urlg / urlp ops).
-/
import OtpVerif.Model.Url
import OtpVerif.Lemmas.Url
import OtpVerif.Model.Otp

namespace OtpVerif.Props.C16
open OtpVerif OtpVerif.Std OtpVerif.Std.Url OtpVerif.Model OtpVerif.Lemmas OtpVerif.Lemmas.Url

/-- **Parse ∘ String = id** for URLs of the shape the library generates -/
theorem parse_string (host label rawQuery : Bytes) (hh : host = sTotp ∨ host = sHotp)
    (hq : rawQuery ≠ []) (hclean : ∀ c ∈ rawQuery, isCTL c = false ∧ c ≠ 35) :
    urlParse (urlString { scheme := sOtpauth, host := host, path := 47 :: label, rawQuery := rawQuery }) =
      .ok { scheme := sOtpauth, host := host, path := 47 :: label, rawQuery := rawQuery } := by
  -- all that is used of the host
  have hhost : host.isEmpty = false ∧ host.all isPlainHostChar = true ∧
      ∀ c ∈ host, (isCTL c = false ∧ c ≠ 35) ∧ c ≠ 63 ∧ c ≠ 47 := by rcases hh with rfl | rfl <;> decide
  have hesc : escape .path (47 :: label) = 47 :: escape .path label := escape_cons .path 47 label
  -- the text, bracketed the way `urlParse` takes it apart
  have htext : urlString { scheme := sOtpauth, host := host, path := 47 :: label, rawQuery := rawQuery } =
      sOtpauth ++ 58 :: ((47 :: 47 :: (host ++ 47 :: escape .path label)) ++ 63 :: rawQuery) := by
    simp [urlString, hesc, List.isEmpty_eq_false_iff.mpr hq]
  have hcl : ∀ c ∈ sOtpauth ++ 58 :: ((47 :: 47 :: (host ++ 47 :: escape .path label)) ++ 63 :: rawQuery),
      isCTL c = false ∧ c ≠ 35 := by
    simp only [List.forall_mem_append, List.forall_mem_cons]
    exact ⟨by decide, by decide, ⟨by decide, by decide, fun c h => (hhost.2.2 c h).1, by decide, escape_clean .path label⟩,
      by decide, hclean⟩
  have h63 : (63 : UInt8) ∉ 47 :: 47 :: (host ++ 47 :: escape .path label) := by
    simp only [List.mem_cons, List.mem_append, not_or]
    exact ⟨by decide, by decide, fun h => (hhost.2.2 _ h).2.1 rfl, by decide,
      escape_avoids .path label 63 (by decide) (by decide) (by decide)⟩
  rw [htext]
  unfold urlParse
  rw [List.any_eq_false.mpr fun c hc => ne_true_of_eq_false (hcl c hc).1,
    List.contains_eq_mem, decide_eq_false (fun hc => (hcl 35 hc).2 rfl), splitFirst_append 58 sOtpauth _ (by decide)]
  simp only [Bool.false_eq_true, if_false, show sOtpauth.isEmpty = false from rfl]
  rw [if_neg (by decide), splitFirst_append 63 _ rawQuery h63]
  simp only [splitFirst_append 47 host _ (fun h => (hhost.2.2 _ h).2.2 rfl), hhost.1, hhost.2.1, Bool.false_eq_true,
    false_or, Bool.not_true, if_false]
  rw [← hesc, unescape_escape, show toLowerAscii sOtpauth = sOtpauth by decide]

theorem itoa_isEmpty (n : Nat) : (itoa n).isEmpty = false := List.isEmpty_eq_false_iff.mpr (itoa_spec n).2.1

theorem algo_roundtrip (a : Nat) (h : a < 3) : (algoNameB a).isEmpty = false ∧ algoOfText (algoNameB a) = some a := by
  have : a = 0 ∨ a = 1 ∨ a = 2 := by omega
  rcases this with rfl | rfl | rfl <;> exact ⟨rfl, by decide⟩

/-- the query pairs `generateOTPURL` encodes (sorted by key) -/
def genKvs (a d : Nat) (issuer secret exK exV : Bytes) : List (Bytes × Bytes) :=
  if exK = kCounter then [(kAlgorithm, algoNameB a), (exK, exV), (kDigits, itoa d), (kIssuer, issuer), (kSecret, secret)]
  else [(kAlgorithm, algoNameB a), (kDigits, itoa d), (kIssuer, issuer), (exK, exV), (kSecret, secret)]

theorem genKvs_ne_nil (a d : Nat) (issuer secret exK exV : Bytes) : genKvs a d issuer secret exK exV ≠ [] := by
  unfold genKvs; split <;> exact List.cons_ne_nil _ _

theorem parse_encoded (kind issuer account : Bytes) (kvs : List (Bytes × Bytes)) (d a per : Nat)
    (hk : kind = sTotp ∨ kind = sHotp) (hi : (58 : UInt8) ∉ issuer)
    (hd : queryGet kvs kDigits = itoa d) (hd' : d ≤ 255) (ha : queryGet kvs kAlgorithm = algoNameB a) (ha' : a < 3)
    (hp : queryGet kvs kPeriod = [] ∧ per = 30 ∨ queryGet kvs kPeriod = itoa per ∧ per < 2 ^ 63) :
    parseOTPAuthURL (URL.mk sOtpauth kind (47 :: (issuer ++ 58 :: account)) (valuesEncode kvs)) =
      .ok (URLParam.mk issuer account (queryGet kvs kSecret) d a per) := by
  unfold parseOTPAuthURL
  have hlow : toLowerFold kind = some kind := by rcases hk with rfl | rfl <;> decide
  have hkk : ¬ (¬ some kind = some sTotp ∧ ¬ some kind = some sHotp) := by rcases hk with rfl | rfl <;> simp
  obtain ⟨ane, aok⟩ := algo_roundtrip a ha'
  have c1 : (0 : Int) ≤ (d : Int) ∧ (d : Int) ≤ 255 := by omega
  simp only [ne_eq, not_true_eq_false, if_false, hlow, if_neg hkk, splitFirst_append 58 issuer account hi,
    parseQuery_encode kvs, hd, ha, itoa_isEmpty, ane, atoi_itoa d (by omega), aok, Bool.false_eq_true, if_pos c1,
    Int.toNat_natCast]
  rcases hp with ⟨hp, rfl⟩ | ⟨hp, hlt⟩
  · simp only [hp, List.isEmpty_nil, if_true]
  · simp only [hp, itoa_isEmpty, Bool.false_eq_true, if_false, atoi_itoa per hlt, Int.natCast_nonneg, if_true,
      Int.toNat_natCast]

/-- what parsing returns for a URL whose label is `issuer:account` and whose query encodes the five pairs -/
theorem parse_generated (kind issuer account secret : Bytes) (d a : Nat) (exK exV : Bytes)
    (hk : kind = sTotp ∨ kind = sHotp) (hi : (58 : UInt8) ∉ issuer)
    (hd : d ≤ 255) (ha : a < 3)
    (hex : (exK = kPeriod ∧ ∃ per, per < 2 ^ 63 ∧ exV = itoa per) ∨ (exK = kCounter ∧ exV = [48])) :
    parseOTPAuthURL (URL.mk sOtpauth kind (47 :: (issuer ++ 58 :: account)) (valuesEncode (genKvs a d issuer secret exK exV))) =
      .ok (URLParam.mk issuer account secret d a (if exK = kPeriod then decVal exV else 30)) := by
  -- in both shapes of the list the four look-ups are evaluated (`rfl`)
  rcases hex with ⟨rfl, per, hper, rfl⟩ | ⟨rfl, rfl⟩
  · rw [if_pos rfl, (itoa_spec per).2.2]
    exact parse_encoded kind issuer account _ d a per hk hi rfl hd rfl ha (Or.inr ⟨rfl, hper⟩)
  · rw [if_neg (by decide)]
    exact parse_encoded kind issuer account _ d a 30 hk hi rfl hd rfl ha (Or.inl ⟨rfl, rfl⟩)

theorem generateOTPURL_eq (kind : Bytes) (p : URLParam) (exK exV : Bytes) :
    generateOTPURL kind p exK exV =
      if p.issuer = [] then .err .issuerRequired else if p.account = [] then .err .accountRequired
      else if p.secret = [] then .err .secretRequired
      else .ok (URL.mk sOtpauth kind (47 :: (p.issuer ++ 58 :: p.account))
        (valuesEncode (genKvs p.algo (if p.digits = 0 then 6 else p.digits) p.issuer p.secret exK exV))) := by
  simp only [generateOTPURL, genKvs, List.isEmpty_iff]

/-- TOTP and HOTP are the two instances of `kind`, `exK`, `exV` -/
theorem roundtrip (kind : Bytes) (p : URLParam) (exK exV : Bytes) (hk : kind = sTotp ∨ kind = sHotp)
    (hi : p.issuer ≠ []) (hcol : (58 : UInt8) ∉ p.issuer) (hacc : p.account ≠ []) (hs : p.secret ≠ [])
    (ha : p.algo < 3) (hd : p.digits ≤ 255)
    (hex : (exK = kPeriod ∧ ∃ per, per < 2 ^ 63 ∧ exV = itoa per) ∨ (exK = kCounter ∧ exV = [48])) :
    ∃ u, generateOTPURL kind p exK exV = .ok u ∧ u.scheme = sOtpauth ∧ u.host = kind ∧
      urlParse (urlString u) = .ok u ∧
      parseOTPAuthURL u = .ok (URLParam.mk p.issuer p.account p.secret (if p.digits = 0 then 6 else p.digits) p.algo
        (if exK = kPeriod then decVal exV else 30)) := by
  rw [generateOTPURL_eq, if_neg hi, if_neg hacc, if_neg hs]
  exact ⟨_, rfl, rfl, rfl,
    parse_string kind _ _ hk (valuesEncode_ne_nil _ (genKvs_ne_nil _ _ _ _ _ _)) (valuesEncode_clean _),
    parse_generated kind _ _ _ _ _ exK exV hk hcol (by split <;> omega) ha hex⟩

/-- **C16, TOTP round trip**: for every non-empty issuer without a colon, non-empty account and secret (any bytes:
spaces, %, /, ?, #, &, =, +, @, non-ASCII, escape look-alikes, control bytes, invalid UTF-8), every supported
hash, every code length 0..255 and every period < 2^63: the generated URL has scheme `otpauth` and type
`totp`; its textual form parses back to itself; and `ParseOTPAuthURL` returns exactly issuer, account,
secret, code length (0 ↦ 6), hash and period (0 ↦ 30) -/
theorem C16_roundtrip_totp (p : URLParam) (hi : p.issuer ≠ []) (hcol : (58 : UInt8) ∉ p.issuer) (hacc : p.account ≠ [])
    (hs : p.secret ≠ []) (ha : p.algo < 3) (hd : p.digits ≤ 255) (hp : p.period < 2 ^ 63) :
    ∃ u, generateTOTPURL p = .ok u ∧ u.scheme = sOtpauth ∧ u.host = sTotp ∧
      urlParse (urlString u) = .ok u ∧
      parseOTPAuthURL u = .ok (URLParam.mk p.issuer p.account p.secret (if p.digits = 0 then 6 else p.digits) p.algo
        (if p.period = 0 then 30 else p.period)) := by
  have := roundtrip sTotp p kPeriod (itoa (if p.period = 0 then 30 else p.period)) (Or.inl rfl) hi hcol hacc hs ha hd
    (Or.inl ⟨rfl, _, by split <;> omega, rfl⟩)
  rwa [if_pos rfl, (itoa_spec _).2.2] at this

/-- **C16, HOTP round trip** (no period in the URL: parsing reports the default 30) -/
theorem C16_roundtrip_hotp (p : URLParam) (hi : p.issuer ≠ []) (hcol : (58 : UInt8) ∉ p.issuer) (hacc : p.account ≠ [])
    (hs : p.secret ≠ []) (ha : p.algo < 3) (hd : p.digits ≤ 255) :
    ∃ u, generateHOTPURL p = .ok u ∧ u.scheme = sOtpauth ∧ u.host = sHotp ∧
      urlParse (urlString u) = .ok u ∧
      parseOTPAuthURL u = .ok (URLParam.mk p.issuer p.account p.secret (if p.digits = 0 then 6 else p.digits) p.algo 30) := by
  have := roundtrip sHotp p kCounter [48] (Or.inr rfl) hi hcol hacc hs ha hd (Or.inr ⟨rfl, rfl⟩)
  rwa [if_neg (show ¬ kCounter = kPeriod by decide)] at this

/-- C16, required fields: an empty issuer, account or secret is refused, in this order.  (Shape: that the issuer in the
label equals the issuer parameter is part of the two theorems above: the label is `issuer:account` and the query's
`issuer` pair is `p.issuer`.) -/
theorem C16_required (p : URLParam) (kind exK exV : Bytes) :
    (p.issuer = [] → generateOTPURL kind p exK exV = .err .issuerRequired) ∧
    (p.issuer ≠ [] → p.account = [] → generateOTPURL kind p exK exV = .err .accountRequired) ∧
    (p.issuer ≠ [] → p.account ≠ [] → p.secret = [] → generateOTPURL kind p exK exV = .err .secretRequired) := by
  rw [generateOTPURL_eq]
  exact ⟨fun h => if_pos h, fun h1 h2 => by rw [if_neg h1, if_pos h2],
    fun h1 h2 h3 => by rw [if_neg h1, if_neg h2, if_pos h3]⟩

/-- how `ParseOTPAuthURL` reads `digits=` and `period=`: absent ↦ the default, else a numeral that passes the range check.
The model's `parseOTPAuthURL` writes this expression out once per field; `numField` names it, so that one lemma serves
both (its instances are the model's two expressions by unfolding) -/
def numField (s : Bytes) (dflt : Nat) (ok : Int → Prop) [DecidablePred ok] : Option Nat :=
  if s.isEmpty then some dflt
  else match atoi s with
    | some d => if ok d then some d.toNat else none
    | none => none

theorem numField_some {s : Bytes} {dflt n : Nat} {ok : Int → Prop} [DecidablePred ok] (hok : ∀ d, ok d → 0 ≤ d)
    (h : numField s dflt ok = some n) : s = [] ∧ n = dflt ∨ ∃ d : Int, atoi s = some d ∧ ok d ∧ (n : Int) = d := by
  unfold numField at h
  split at h
  · next he => injection h with h; exact Or.inl ⟨List.isEmpty_iff.mp he, h.symm⟩
  · split at h
    · next d hd =>
      split at h
      · next hr => injection h with h; exact Or.inr ⟨d, hd, hr, by rw [← h]; exact Int.toNat_of_nonneg (hok d hr)⟩
      · cases h
    · cases h

/-- C16, exactness: whatever URL is parsed, a returned code length is the number written in `digits=` (a plain
decimal numeral in 0..255) and a returned period is the number written in `period=`; never a wrapped value -/
theorem C16_exact (u : URL) (q : URLParam) (h : parseOTPAuthURL u = .ok q) :
    (queryGet (parseQuery u.rawQuery) kDigits = [] ∧ q.digits = 6 ∨
      ∃ d : Int, atoi (queryGet (parseQuery u.rawQuery) kDigits) = some d ∧ 0 ≤ d ∧ d ≤ 255 ∧ (q.digits : Int) = d) ∧
    (queryGet (parseQuery u.rawQuery) kPeriod = [] ∧ q.period = 30 ∨
      ∃ p : Int, atoi (queryGet (parseQuery u.rawQuery) kPeriod) = some p ∧ 0 ≤ p ∧ (q.period : Int) = p) := by
  unfold parseOTPAuthURL at h
  by_cases h1 : u.scheme ≠ sOtpauth
  · rw [if_pos h1] at h; cases h
  rw [if_neg h1] at h
  simp only at h
  by_cases h2 : toLowerFold u.host ≠ some sTotp ∧ toLowerFold u.host ≠ some sHotp
  · rw [if_pos h2] at h; cases h
  rw [if_neg h2] at h
  split at h
  · cases h
  split at h
  · next d a p hD _ hP =>
    -- `hD`, `hP`: the two fields, read by `numField`, gave `some d`, `some p`
    injection h with h; subst h
    refine ⟨(numField_some (ok := fun d => 0 ≤ d ∧ d ≤ 255) (fun _ h => h.1) hD).imp id ?_,
      numField_some (ok := fun p => 0 ≤ p) (fun _ h => h) hP⟩
    exact fun ⟨d, h1, h2, h3⟩ => ⟨d, h1, h2.1, h2.2, h3⟩
  · cases h

-- non-vacuity: an issuer with a space and '%41', an account with '/', '?', '#'
example : generateTOTPURL { issuer := [77, 121, 32, 37, 52, 49], account := [97, 47, 63, 35], secret := [65, 66], digits := 0, algo := 1, period := 0 } =
    .ok { scheme := sOtpauth, host := sTotp, path := [47, 77, 121, 32, 37, 52, 49, 58, 97, 47, 63, 35],
          rawQuery := valuesEncode [(kAlgorithm, [83, 72, 65, 50, 53, 54]), (kDigits, [54]), (kIssuer, [77, 121, 32, 37, 52, 49]), (kPeriod, [51, 48]), (kSecret, [65, 66])] } := rfl

theorem generateTOTP_period_default (O : HashOracle) (s : Bytes) (sec : Int) (d a sk : Nat) :
    generateTOTP O s sec (some ⟨d, 0, sk, a⟩) = generateTOTP O s sec (some ⟨d, 30, sk, a⟩) := by
  unfold generateTOTP
  simp only [resolveTOTP, effPeriod]
  rfl

/-- C16 ∘ C02 (what provisioning is for): an authenticator that reads the generated URL computes, at every instant, the code
the issuing side computes from its own parameters — same secret text, length and hash, and the period the URL spells out
(30 when the issuer's period was left 0) -/
theorem C16_provisioned_codes (O : HashOracle) (p : URLParam) (hi : p.issuer ≠ []) (hcol : (58 : UInt8) ∉ p.issuer)
    (hacc : p.account ≠ []) (hs : p.secret ≠ []) (ha : p.algo < 3) (hd1 : 1 ≤ p.digits) (hd : p.digits ≤ 255)
    (hp : p.period < 2 ^ 63) (sec : Int) :
    ∃ u q, generateTOTPURL p = .ok u ∧ parseOTPAuthURL u = .ok q ∧
      generateTOTP O q.secret sec (some ⟨q.digits, q.period, 0, q.algo⟩) =
        generateTOTP O p.secret sec (some ⟨p.digits, p.period, 0, p.algo⟩) := by
  obtain ⟨u, hg, _, _, _, hq⟩ := C16_roundtrip_totp p hi hcol hacc hs ha hd hp
  refine ⟨u, _, hg, hq, ?_⟩
  have hd0 : p.digits ≠ 0 := by omega
  simp only [if_neg hd0]
  by_cases h0 : p.period = 0
  · simp only [if_pos h0]
    rw [h0]
    exact (generateTOTP_period_default O p.secret sec p.digits p.algo 0).symm
  · simp only [if_neg h0]

end OtpVerif.Props.C16

#print axioms OtpVerif.Props.C16.parse_string
#print axioms OtpVerif.Props.C16.parse_generated
#print axioms OtpVerif.Props.C16.C16_roundtrip_totp
#print axioms OtpVerif.Props.C16.C16_roundtrip_hotp
#print axioms OtpVerif.Props.C16.C16_required
#print axioms OtpVerif.Props.C16.C16_exact
#print axioms OtpVerif.Props.C16.C16_provisioned_codes

/-
C14 — OCRA admits an input exactly when it meets the suite's field requirements.
-/
import OtpVerif.Lemmas.Ocra

namespace OtpVerif.Props.C14
open OtpVerif OtpVerif.Model OtpVerif.Lemmas

/-- C14 (suite clause): a suite is usable exactly when digits are 4..10, the hash is supported and each
selected field has its format / password hash / positive time step -/
theorem C14_suite (cfg : SuiteConfig) : suiteValidate cfg = none ↔ Spec.usable cfg := suiteValidate_iff cfg

/-- C14 (input clause): for enumerations within their documented ranges, `OCRAInput.Validate` admits the
input iff every *selected* field meets its requirement -/
theorem C14_input (cfg : SuiteConfig) (i : OCRAInput) (hr : Spec.enumsInRange cfg) :
    inputValidate i cfg = none ↔ Spec.admissible cfg i := inputValidate_iff cfg i hr

/-- the derivation (after the two checks) never fails: usable ∧ admitted ⇒ a code -/
theorem derive_ok_of_valid (O : HashOracle) (k : Bytes) (cfg : SuiteConfig) (i : OCRAInput)
    (hv : suiteValidate cfg = none) (hi : inputValidate i cfg = none) :
    deriveRFC6287 O k cfg i = .ok (Spec.ocra O.hmac k cfg i) := by
  rw [deriveRFC6287_eq, hv, hi]

/-- C14 (entry points): generation returns a code iff the suite is usable and the input admitted
(validation then compares; see C06) -/
theorem C14_entry (O : HashOracle) (s k : Bytes) (cfg : SuiteConfig) (i : OCRAInput) (hs : decodeSecret s = .ok k) :
    (∃ code, generateOCRA O s cfg i = .ok code) ↔ (suiteValidate cfg = none ∧ inputValidate i cfg = none) := by
  unfold generateOCRA
  simp only [hs, deriveRFC6287_eq]
  cases suiteValidate cfg <;> cases inputValidate i cfg <;> simp

/-- C14 (entry points, property vocabulary): under the documented enumeration ranges, a code is returned iff
`usable cfg ∧ admissible cfg i` -/
theorem C14_entry_spec (O : HashOracle) (s k : Bytes) (cfg : SuiteConfig) (i : OCRAInput) (hs : decodeSecret s = .ok k)
    (hr : Spec.enumsInRange cfg) :
    (∃ code, generateOCRA O s cfg i = .ok code) ↔ (Spec.usable cfg ∧ Spec.admissible cfg i) := by
  rw [C14_entry O s k cfg i hs, suiteValidate_iff, inputValidate_iff cfg i hr]

/-- fields the suite does not select are not constrained: admission only looks at selected fields -/
theorem C14_unselected (cfg : SuiteConfig) (i i' : OCRAInput)
    (hC : cfg.incC = true → i.counter = i'.counter) (hQ : cfg.incQ = true → i.challenge = i'.challenge)
    (hP : cfg.incP = true → i.password = i'.password) (hS : cfg.incS = true → i.session = i'.session)
    (hT : cfg.incT = true → i.timestamp = i'.timestamp) :
    inputValidate i cfg = inputValidate i' cfg := inputValidate_unselected cfg i i' hC hQ hP hS hT

-- non-vacuity: a registered-style configuration with an admissible and an inadmissible input
example : Spec.usable { zeroCfg with digits := 6, incQ := true, challenge := 1 } := by decide
example : Spec.admissible { zeroCfg with digits := 6, incQ := true, challenge := 1 } ⟨[], List.replicate 8 48, [], [], []⟩ := by decide
example : ¬ Spec.admissible { zeroCfg with digits := 6, incQ := true, challenge := 1 } ⟨[], List.replicate 7 48, [], [], []⟩ := by decide

end OtpVerif.Props.C14

#print axioms OtpVerif.Props.C14.C14_suite
#print axioms OtpVerif.Props.C14.C14_input
#print axioms OtpVerif.Props.C14.derive_ok_of_valid
#print axioms OtpVerif.Props.C14.C14_entry
#print axioms OtpVerif.Props.C14.C14_entry_spec
#print axioms OtpVerif.Props.C14.C14_unselected

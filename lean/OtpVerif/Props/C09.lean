/-
C09 — submitted codes are compared with the expected code in constant time  (PARTIAL: see DESIGN.md).

(a) program facts, regenerated from go/ssa on every run for the native and the js/wasm configuration
    (library, wasm binding, REST layer): every comparison-like site at which HMAC-derived data meets
    caller-supplied text is a `crypto/subtle` constant-time function; no branch is taken on a value derived
    from both before it went through such a function.
(b) noninterference of the leakage model: two wrong codes of the right length produce the same leakage
    trace – the rejection path does not depend on how many leading characters are right.
Real timing (compiler, CPU, allocator, crypto/subtle's implementation) is outside the model.
-/
import OtpVerif.Gen.Sites
import OtpVerif.Model.Leak
import OtpVerif.Model.Wasm
import OtpVerif.Lemmas.Wasm

namespace OtpVerif.Props.C09
open OtpVerif OtpVerif.Model OtpVerif.Model.Leak OtpVerif.Lemmas

/-- a site mixes HMAC-derived data with caller text: one operand H, the other C, neither a constant;
or it is a branch / lookup on a value derived from both -/
def mixesHC (s : Gen.CmpSite) : Bool :=
  (!s.xConst && !s.yConst && ((s.xH && s.yC) || (s.yH && s.xC)))

def sanctioned (s : Gen.CmpSite) : Bool := s.kindCode == 1   -- a crypto/subtle constant-time function

/-- C09 (a): every mixing site, in every function of the library (native and js/wasm), the wasm binding and
the REST layer, is a `crypto/subtle` constant-time comparison -/
theorem C09_sites : Gen.cmpSites.all (fun s => !mixesHC s || sanctioned s) = true := by decide

/-- the site receives both HMAC-derived data and caller text (on either operand) -/
def carriesHC (s : Gen.CmpSite) : Bool := (s.xH || s.yH) && (s.xC || s.yC)

/-- … and in each build configuration the analysis does see the expected code reach a `crypto/subtle` sink together
with the caller's text (the comparison was not removed, and the taint tracking did not lose the HMAC label — without
this `C09_sites` could hold vacuously) -/
theorem C09_sinks_present :
    (Gen.cmpSites.any (fun s => s.cfg == 0 && sanctioned s && carriesHC s)) = true ∧
    (Gen.cmpSites.any (fun s => s.cfg == 1 && sanctioned s && carriesHC s)) = true := by decide

/-- C09 (b), core: two rejected codes of equal length leave the same trace of `validate` -/
theorem validateL_noninterference (code1 code2 : Bytes) (len : Int) (c : Nat) (d : Out Bytes)
    (hl : code1.length = code2.length)
    (h1 : (validateL code1 len c d).1 = false) (h2 : (validateL code2 len c d).1 = false) :
    (validateL code1 len c d).2 = (validateL code2 len c d).2 := by
  unfold validateL at *
  rw [hl] at *
  by_cases hlen : (code2.length : Int) ≠ len
  · simp only [hlen, if_true, ne_eq, not_false_eq_true]
  · simp only [hlen, if_false] at *
    cases d with
    | ok expected =>
      simp only at *
      rw [h1, h2]
    | err e => rfl
    | panic => rfl

/-- The shape all window loops share: the probe picks the counter to examine (`g`, which may skip) and runs
`validateL` on a derivation that does not depend on the submitted code.  (`g` and `dv` have to be given: unification does
not find them from the probes.) -/
theorem loopL_noninterference {p1 p2 : Int → Option (Bool × Trace)} (g : Int → Option Nat) (dv : Nat → Out Bytes) (len : Int)
    (code1 code2 : Bytes) (e1 : p1 = fun i => (g i).map fun c => validateL code1 len c (dv c))
    (e2 : p2 = fun i => (g i).map fun c => validateL code2 len c (dv c)) (hl : code1.length = code2.length) (hi : Int) :
    ∀ fuel i, (loopL p1 hi fuel i).1 = false → (loopL p2 hi fuel i).1 = false →
      (loopL p1 hi fuel i).2 = (loopL p2 hi fuel i).2 := by
  subst e1 e2
  intro fuel
  induction fuel with
  | zero => intro i _ _; rfl
  | succ n ih =>
    intro i
    simp only [loopL]
    split
    · intros; rfl
    · cases g i with
      | none => simp only [Option.map_none]; intro h1 h2; rw [ih (i + 1) h1 h2]
      | some c =>
        simp only [Option.map_some]
        have ni := validateL_noninterference code1 code2 len c (dv c) hl
        revert ni
        rcases validateL code1 len c (dv c) with ⟨_ | _, t1⟩ <;> rcases validateL code2 len c (dv c) with ⟨_ | _, t2⟩ <;>
          simp only [Bool.true_eq_false, false_imp_iff, imp_true_iff, forall_const]
        intro ht h1 h2
        rw [ht, ih (i + 1) h1 h2]

/-- C09 (b): two rejected codes of the same length produce the same leakage in `ValidateHOTP` – for every
key, counter, window, length and hash.  In particular the trace does not depend on how many leading
characters of a wrong code are correct. -/
theorem C09_noninterference_hotp (O : HashOracle) (key code1 code2 : Bytes) (counter digits algo skew : Nat)
    (hl : code1.length = code2.length)
    (h1 : (validateHOTPL O key code1 counter digits algo skew).1 = false)
    (h2 : (validateHOTPL O key code2 counter digits algo skew).1 = false) :
    (validateHOTPL O key code1 counter digits algo skew).2 = (validateHOTPL O key code2 counter digits algo skew).2 := by
  have e (code : Bytes) : hotpProbeL O code key digits algo counter = fun i =>
      (if i < 0 then (if counter < (-i).toNat then none else some (counter - (-i).toNat))
       else some ((counter + i.toNat) % 2 ^ 64)).map fun c => validateL code digits c (deriveRFC4226 O key c digits algo) := by
    funext i; unfold hotpProbeL; split
    · split <;> rfl
    · rfl
  exact loopL_noninterference _ _ _ _ _ (e code1) (e code2) hl _ _ _ h1 h2

theorem C09_noninterference_totp (O : HashOracle) (key code1 code2 : Bytes) (counter digits algo skew : Nat)
    (hl : code1.length = code2.length)
    (h1 : (validateTOTPL O key code1 counter digits algo skew).1 = false)
    (h2 : (validateTOTPL O key code2 counter digits algo skew).1 = false) :
    (validateTOTPL O key code1 counter digits algo skew).2 = (validateTOTPL O key code2 counter digits algo skew).2 := by
  exact loopL_noninterference (fun i => some ((counter + toU64 i) % 2 ^ 64)) (deriveRFC4226 O key · digits algo) _ _ _ rfl rfl hl _ _ _ h1 h2

theorem C09_noninterference_ocra (O : HashOracle) (key code1 code2 : Bytes) (cfg : SuiteConfig) (i : OCRAInput)
    (hl : code1.length = code2.length)
    (h1 : (validateOCRAL O key code1 cfg i).1 = false) (h2 : (validateOCRAL O key code2 cfg i).1 = false) :
    (validateOCRAL O key code1 cfg i).2 = (validateOCRAL O key code2 cfg i).2 :=
  validateL_noninterference code1 code2 _ _ _ hl h1 h2

/-- the leakage-instrumented model computes the same verdict as the plain model (`validate`) -/
theorem validateL_refines (code : Bytes) (len : Int) (c : Nat) (d : Out Bytes) (hd : d ≠ .panic) :
    validate code len d = .ok ((validateL code len c d).1, if (validateL code len c d).1 then none else
      (match validate code len d with | .ok (_, e) => e | _ => none)) := by
  unfold validate validateL
  by_cases hlen : (code.length : Int) ≠ len
  · simp [hlen]
  · simp only [hlen, if_false]
    cases d with
    | ok expected => by_cases h : ctEq code expected = true <;> simp [h]
    | err e => simp
    | panic => exact absurd rfl hd

section WasmLeak
open OtpVerif.Model.Wasm
/-- leakage of the js/wasm binding's `validateHOTP` loop (`currCounter < 0` skips; `ValidateOTPWasm` per step) -/
def wasmHotpProbeL (O : HashOracle) (code key : Bytes) (digits algo : Nat) (counter : Int) (i : Int) : Option (Bool × Trace) :=
  if counter + i < 0 then none
  else some (validateL code digits (toU64 (counter + i)) (deriveWasm O key (toU64 (counter + i)) digits algo))

def wasmValidateHOTPL (O : HashOracle) (key code : Bytes) (counter : Int) (digits algo skew : Nat) : Bool × Trace :=
  loopL (wasmHotpProbeL O code key digits algo counter) (skew : Int) (2 * skew + 1) (-(skew : Int))

def wasmTotpProbeL (O : HashOracle) (code key : Bytes) (digits algo counter : Nat) (i : Int) : Option (Bool × Trace) :=
  some (validateL code digits ((counter + toU64 i) % 2 ^ 64) (deriveWasm O key ((counter + toU64 i) % 2 ^ 64) digits algo))

def wasmValidateTOTPL (O : HashOracle) (key code : Bytes) (counter digits algo skew : Nat) : Bool × Trace :=
  loopL (wasmTotpProbeL O code key digits algo counter) (skew : Int) (2 * skew + 1) (-(skew : Int))

/-- C09 (b) for the js/wasm binding: two rejected codes of the same length leave the same leakage trace in the
binding's `validateHOTP` and `validateTOTP` loops (which re-implement the windows around `ValidateOTPWasm`) -/
theorem C09_noninterference_wasm (O : HashOracle) (key code1 code2 : Bytes) (counter : Int) (c digits algo skew : Nat)
    (hl : code1.length = code2.length) :
    ((wasmValidateHOTPL O key code1 counter digits algo skew).1 = false → (wasmValidateHOTPL O key code2 counter digits algo skew).1 = false →
      (wasmValidateHOTPL O key code1 counter digits algo skew).2 = (wasmValidateHOTPL O key code2 counter digits algo skew).2) ∧
    ((wasmValidateTOTPL O key code1 c digits algo skew).1 = false → (wasmValidateTOTPL O key code2 c digits algo skew).1 = false →
      (wasmValidateTOTPL O key code1 c digits algo skew).2 = (wasmValidateTOTPL O key code2 c digits algo skew).2) := by
  have e (code : Bytes) : wasmHotpProbeL O code key digits algo counter = fun i =>
      (if counter + i < 0 then none else some (toU64 (counter + i))).map fun c =>
        validateL code digits c (deriveWasm O key c digits algo) := by
    funext i; unfold wasmHotpProbeL; split <;> rfl
  constructor
  · exact loopL_noninterference _ _ _ _ _ (e code1) (e code2) hl _ _ _
  · exact loopL_noninterference (fun i => some ((c + toU64 i) % 2 ^ 64)) (deriveWasm O key · digits algo) _ _ _ rfl rfl hl _ _ _

/-- the leakage model of the binding's per-step validation refines `validateWasm` (same verdict) -/
theorem validateL_refines_wasm (O : HashOracle) (code key : Bytes) (c d a : Nat) (hd : deriveWasm O key c d a ≠ .panic) :
    validateWasm O code key c d a = .ok ((validateL code d c (deriveWasm O key c d a)).1,
      match validateWasm O code key c d a with | .ok (_, e) => e | _ => none) := by
  -- `validateL_refines` rewrites `validate …` on the left and under the `match`, which then computes to that
  -- equation's own second component
  rw [validateWasm_eq, validateL_refines code d c _ hd]
end WasmLeak

-- non-vacuity: the site table is not empty and contains mixing sites (all sanctioned)
example : (Gen.cmpSites.filter carriesHC).length ≥ 2 := by decide

end OtpVerif.Props.C09

#print axioms OtpVerif.Props.C09.C09_sites
#print axioms OtpVerif.Props.C09.C09_sinks_present
#print axioms OtpVerif.Props.C09.C09_noninterference_hotp
#print axioms OtpVerif.Props.C09.C09_noninterference_totp
#print axioms OtpVerif.Props.C09.C09_noninterference_ocra
#print axioms OtpVerif.Props.C09.validateL_refines
#print axioms OtpVerif.Props.C09.C09_noninterference_wasm
#print axioms OtpVerif.Props.C09.validateL_refines_wasm

/-
C03 — HOTP validation accepts exactly the codes of counters inside the window.
-/
import OtpVerif.Lemmas.Otp

namespace OtpVerif.Props.C03
open OtpVerif OtpVerif.Model OtpVerif.Lemmas

/-- C03 without the side condition `c + s ≤ 2^64-1` (the counter is any 64-bit value): the accepted strings are exactly the
codes of the counters `(c + j) mod 2^64` for offsets `-s ≤ j ≤ s` with `c + j ≥ 0` — below counter 0 the window is cut
off, above 2^64-1 it continues at 0 (what `counter + uint64(i)` computes).  Outside the property's stated domain; stated
so that the behaviour of the loop as written is characterised for every argument. -/
theorem C03_iff_wrap (O : HashOracle) (s k code : Bytes) (c : Nat) (p : Option Param)
    (hs : decodeSecret s = .ok k) (hsk : (resolveHOTP p).skew ≤ 10) (hc : c < 2 ^ 64)
    (hd1 : 1 ≤ (resolveHOTP p).digits) (hd2 : (resolveHOTP p).digits ≤ 10) (ha : (resolveHOTP p).algo < 3) :
    (validateHOTP O s code c p = .ok (true, none) ↔
      ∃ j : Int, -((resolveHOTP p).skew : Int) ≤ j ∧ j ≤ (resolveHOTP p).skew ∧ 0 ≤ (c : Int) + j ∧
        code = Spec.hotp O.hmac (resolveHOTP p).algo k ((((c : Int) + j) % (2 ^ 64 : Int)).toNat) (resolveHOTP p).digits) ∧
    (validateHOTP O s code c p = .ok (true, none) ∨ validateHOTP O s code c p = .ok (false, some .invalidCode)) := by
  refine ok_iff verdictOf (validateHOTP_ok O s k code c p hs hsk hc) (by decide) ?_
  simp only [List.any_eq_true, mem_span, Bool.and_eq_true, decide_eq_true_eq, hd1, hd2, ha, and_self, true_and, and_assoc]

/-- C03, main clause: with a window `s ≤ 10`, `c + s ≤ 2^64-1` and supported length/hash, validation returns
`(true, nil)` if and only if the submitted string is byte-for-byte the RFC 4226 code of some counter
`c'` with `max(0, c-s) ≤ c' ≤ c+s` (`c - s` is natural-number subtraction); otherwise it returns
`(false, ErrInvalidCode)` -/
theorem C03_iff (O : HashOracle) (s k code : Bytes) (c : Nat) (p : Option Param)
    (hs : decodeSecret s = .ok k) (hsk : (resolveHOTP p).skew ≤ 10) (hov : c + (resolveHOTP p).skew < 2 ^ 64)
    (hd1 : 1 ≤ (resolveHOTP p).digits) (hd2 : (resolveHOTP p).digits ≤ 10) (ha : (resolveHOTP p).algo < 3) :
    (validateHOTP O s code c p = .ok (true, none) ↔
      ∃ c', c - (resolveHOTP p).skew ≤ c' ∧ c' ≤ c + (resolveHOTP p).skew ∧
        code = Spec.hotp O.hmac (resolveHOTP p).algo k c' (resolveHOTP p).digits) ∧
    (validateHOTP O s code c p = .ok (true, none) ∨ validateHOTP O s code c p = .ok (false, some .invalidCode)) := by
  have h := C03_iff_wrap O s k code c p hs hsk (by omega) hd1 hd2 ha
  exact ⟨h.1.trans (window_plain (code = Spec.hotp O.hmac _ k · _) c _ hov), h.2⟩

/-- every generated code validates at its own counter -/
theorem C03_self (O : HashOracle) (s k : Bytes) (c : Nat) (p : Option Param)
    (hs : decodeSecret s = .ok k) (hsk : (resolveHOTP p).skew ≤ 10) (hov : c + (resolveHOTP p).skew < 2 ^ 64)
    (hd1 : 1 ≤ (resolveHOTP p).digits) (hd2 : (resolveHOTP p).digits ≤ 10) (ha : (resolveHOTP p).algo < 3) :
    validateHOTP O s (Spec.hotp O.hmac (resolveHOTP p).algo k c (resolveHOTP p).digits) c p = .ok (true, none) :=
  (C03_iff O s k _ c p hs hsk hov hd1 hd2 ha).1.mpr ⟨c, by omega, by omega, rfl⟩

/-- a string of the wrong length (in bytes) is never accepted -/
theorem C03_len (O : HashOracle) (s k code : Bytes) (c : Nat) (p : Option Param)
    (hs : decodeSecret s = .ok k) (hsk : (resolveHOTP p).skew ≤ 10) (hov : c + (resolveHOTP p).skew < 2 ^ 64)
    (hd1 : 1 ≤ (resolveHOTP p).digits) (hd2 : (resolveHOTP p).digits ≤ 10) (ha : (resolveHOTP p).algo < 3)
    (hl : code.length ≠ (resolveHOTP p).digits) :
    validateHOTP O s code c p = .ok (false, some .invalidCode) := by
  have h := C03_iff O s k code c p hs hsk hov hd1 hd2 ha
  refine h.2.resolve_left fun ht => ?_
  obtain ⟨c', _, _, rfl⟩ := h.1.mp ht
  exact hl (hotp_shape O _ k c' _).1

/-- a window larger than 10 is refused (whatever the other arguments are) -/
theorem C03_skew_refused (O : HashOracle) (s code : Bytes) (c : Nat) (p : Option Param)
    (h : 10 < (resolveHOTP p).skew) : validateHOTP O s code c p = .ok (false, some .invalidSkew) := by
  unfold validateHOTP
  simp only
  rw [if_pos h]

/-- absent parameters mean 6 digits, SHA-1, window 2 (regenerated default) -/
theorem C03_nil : resolveHOTP none = { digits := 6, period := 0, skew := 2, algo := 0 } := by decide

/-- an undecodable secret is answered `(false, error)` -/
theorem C03_bad_secret (O : HashOracle) (s code : Bytes) (c : Nat) (p : Option Param) (e : Err)
    (hs : decodeSecret s = .err e) (hsk : (resolveHOTP p).skew ≤ 10) :
    validateHOTP O s code c p = .ok (false, some e) := by
  unfold validateHOTP
  simp only [hs]
  rw [if_neg (by omega)]

-- non-vacuity of the hypotheses (c < s and c ≥ 2^63 included)
example : (1 : Nat) + (resolveHOTP none).skew < 2 ^ 64 ∧ (resolveHOTP none).skew ≤ 10 := by decide
example : (2 ^ 63 + 5 : Nat) + 10 < 2 ^ 64 := by decide

-- non-vacuity of the wrap clause: at counter 2^64-1 the offset +1 reaches counter 0; at counter 0 the offset -1 is cut off
example : ((((2 ^ 64 - 1 : Nat) : Int) + 1) % (2 ^ 64 : Int)).toNat = 0 := by decide
example : ¬ (0 ≤ ((0 : Nat) : Int) + (-1)) := by decide

end OtpVerif.Props.C03

#print axioms OtpVerif.Props.C03.C03_iff
#print axioms OtpVerif.Props.C03.C03_iff_wrap
#print axioms OtpVerif.Props.C03.C03_self
#print axioms OtpVerif.Props.C03.C03_len
#print axioms OtpVerif.Props.C03.C03_skew_refused
#print axioms OtpVerif.Props.C03.C03_nil
#print axioms OtpVerif.Props.C03.C03_bad_secret

/-
C15 — a suite's configuration always means what its suite string says.
`Spec.denote` (Spec/SuiteGrammar.lean) is the independent reading of the RFC 6287 naming scheme.
-/
import OtpVerif.Lemmas.Suite

namespace OtpVerif.Props.C15
open OtpVerif OtpVerif.Std OtpVerif.Model OtpVerif.Lemmas

/-- every registered name denotes exactly its registered configuration (regenerated registry, all 45 entries) -/
theorem C15_registry :
    Gen.registry.all (fun e => decide (Spec.denote e.1 = some { e.2 with raw := e.1 })) = true := by decide +kernel

/-- the advertised list, the known-suite test, lookup by name and instantiation agree with one another
(facts regenerated through the exported API: ListSuites, IsKnownSuite, SuiteConfigFromRaws, NewRawSuite) -/
theorem C15_consistent :
    Gen.listSuites = Gen.registry.map (·.1) ∧
    Gen.lookups.map (·.1) = Gen.listSuites ∧
    Gen.lookups.all (fun e =>
      e.2.1 && decide (registryLookup e.1 = some e.2.2.1) &&
      decide (e.2.2.2 = some ({ e.2.2.1 with raw := e.1 }, e.1))) = true := by decide +kernel

theorem lookups_registry : Gen.lookups.map (fun e => (e.1, e.2.2.1)) = Gen.registry := by decide +kernel

theorem registry_valid : Gen.registry.all (fun e => decide (suiteValidate { e.2 with raw := e.1 } = none)) = true := by
  decide +kernel

theorem registryLookup_self : ∀ e ∈ Gen.registry, registryLookup e.1 = some e.2 := by
  -- `C15_consistent` has evaluated every lookup
  intro e he
  rw [← lookups_registry] at he
  obtain ⟨l, hl, rfl⟩ := List.mem_map.mp he
  have := List.all_eq_true.mp C15_consistent.2.2 l hl
  simp only [Bool.and_eq_true, decide_eq_true_eq] at this
  exact this.1.2

theorem registryLookup_mem {raw : Bytes} {cfg : SuiteConfig} (h : registryLookup raw = some cfg) : (raw, cfg) ∈ Gen.registry := by
  obtain ⟨⟨r, c⟩, hf, rfl⟩ := Option.map_eq_some_iff.mp h
  obtain rfl : r = raw := by simpa using List.find?_some hf
  exact List.mem_of_find?_eq_some hf

theorem newRawSuite_registered {raw : Bytes} {c : SuiteConfig} (hl : registryLookup raw = some c) :
    newRawSuite raw = .ok { c with raw := raw } ∧ Spec.denote raw = some { c with raw := raw } := by
  have hm := registryLookup_mem hl
  have hv := of_decide_eq_true (List.all_eq_true.mp registry_valid _ hm)
  exact ⟨by simp only [newRawSuite, hl, hv], of_decide_eq_true (List.all_eq_true.mp C15_registry _ hm)⟩

/-- the model's lookup path answers for every registered name what the implementation answered -/
theorem C15_model_registry :
    Gen.registry.all (fun e => decide (newRawSuite e.1 = .ok { e.2 with raw := e.1 }) && isKnownSuite e.1 &&
      decide (suiteConfigFromRaws e.1 = e.2)) = true := by
  refine List.all_eq_true.mpr fun e he => ?_
  have hl := registryLookup_self e he
  simp [(newRawSuite_registered hl).1, isKnownSuite, suiteConfigFromRaws, hl]

/-- every advertised name can be instantiated -/
theorem C15_instantiable : ∀ e ∈ Gen.registry, newRawSuite e.1 = .ok { e.2 with raw := e.1 } :=
  fun e he => (newRawSuite_registered (registryLookup_self e he)).1

/-- **C15, exact language**: `NewRawSuite` accepts a string, with a configuration, exactly when the naming scheme reads the
string as that configuration and the string is either an advertised name or made of tokens a configuration can represent.
Nothing else is accepted, nothing of that kind is refused, and what is accepted is never approximated. -/
theorem C15_exact (raw : Bytes) (cfg : SuiteConfig) :
    newRawSuite raw = .ok cfg ↔ Spec.denote raw = some cfg ∧ (isKnownSuite raw = true ∨ representable raw) := by
  cases hl : registryLookup raw with
  | none =>
    have hn : newRawSuite raw = parseRawSuite raw := by simp only [newRawSuite, hl]
    simp [hn, isKnownSuite, hl, parseRawSuite_iff]
  | some c =>
    obtain ⟨hn, hd⟩ := newRawSuite_registered hl
    simp [hn, hd, isKnownSuite, hl]

theorem denote_raw {raw : Bytes} {cfg : SuiteConfig} (h : Spec.denote raw = some cfg) : cfg.raw = raw := by
  obtain ⟨-, _, _, _, _, _, -, -, -, -, -, rfl⟩ := denote_eq_some.mp h
  rfl

/-- C15, main clause: for *every* string, if `NewRawSuite` accepts it – by registry lookup or by parsing – the
resulting configuration is exactly what the string says under the naming scheme, and the suite reports
that string as its name -/
theorem C15_newRawSuite (raw : Bytes) (cfg : SuiteConfig) (h : newRawSuite raw = .ok cfg) :
    Spec.denote raw = some cfg ∧ cfg.raw = raw :=
  have hd := ((C15_exact raw cfg).mp h).1
  ⟨hd, denote_raw hd⟩

/-- a string the Spec cannot read is rejected, never approximated (contrapositive of the main clause) -/
theorem C15_rejects (raw : Bytes) (h : Spec.denote raw = none) : ∀ cfg, newRawSuite raw ≠ .ok cfg := by
  intro cfg hc
  have := (C15_newRawSuite raw cfg hc).1
  rw [h] at this; cases this

/-- a registered name is accepted with the configuration its name says (no representability needed: the registry speaks
for challenge formats and unit-less time steps the parser does not read) -/
theorem C15_registered (raw : Bytes) (cfg : SuiteConfig) (h : Spec.denote raw = some cfg) (hk : isKnownSuite raw = true) :
    newRawSuite raw = .ok cfg :=
  (C15_exact raw cfg).mpr ⟨h, .inl hk⟩

/-- C15, converse direction (completeness of the parser on what a `SuiteConfig` can express): every string that the naming
scheme reads — with a challenge format the library records (QN08 / QN10) and time steps that carry their unit — is
accepted by `NewRawSuite`, with exactly the configuration the string says.  Together with `C15_newRawSuite` this makes the
parser's language on representable strings *equal* to the Spec's: nothing well-formed is refused, nothing is approximated. -/
theorem C15_complete (raw : Bytes) (cfg : SuiteConfig) (h : Spec.denote raw = some cfg) (hrep : representable raw) :
    newRawSuite raw = .ok cfg :=
  (C15_exact raw cfg).mpr ⟨h, .inr hrep⟩

/-- on representable strings acceptance is *equivalent* to having a denotation -/
theorem C15_iff (raw : Bytes) (hrep : representable raw) (cfg : SuiteConfig) :
    newRawSuite raw = .ok cfg ↔ Spec.denote raw = some cfg :=
  ⟨fun h => ((C15_exact raw cfg).mp h).1, fun h => C15_complete raw cfg h hrep⟩

-- non-vacuity: an unregistered well-formed string is accepted by the parser and denotes what it says
-- "OCRA-1:HOTP-SHA256-7:C-QN10-PSHA1-S064-T5M"
example : newRawSuite [79, 67, 82, 65, 45, 49, 58, 72, 79, 84, 80, 45, 83, 72, 65, 50, 53, 54, 45, 55, 58, 67, 45, 81, 78, 49, 48, 45, 80, 83, 72, 65, 49, 45, 83, 48, 54, 52, 45, 84, 53, 77] =
    .ok { raw := [79, 67, 82, 65, 45, 49, 58, 72, 79, 84, 80, 45, 83, 72, 65, 50, 53, 54, 45, 55, 58, 67, 45, 81, 78, 49, 48, 45, 80, 83, 72, 65, 49, 45, 83, 48, 54, 52, 45, 84, 53, 77], hash := 1, digits := 7, challenge := 2,
          incC := true, incQ := true, incP := true, incS := true, incT := true, pwHash := 1, timeStep := 300 } := by decide +kernel
-- "OCRA-10:HOTP-SHA1-6:QN08", "OCRA-1:HOTP-SHA1-6:QN08-QN10"
example : Spec.denote [79, 67, 82, 65, 45, 49, 48, 58, 72, 79, 84, 80, 45, 83, 72, 65, 49, 45, 54, 58, 81, 78, 48, 56] = none := by decide
example : Spec.denote [79, 67, 82, 65, 45, 49, 58, 72, 79, 84, 80, 45, 83, 72, 65, 49, 45, 54, 58, 81, 78, 48, 56, 45, 81, 78, 49, 48] = none := by decide
example : Gen.registry.length = 45 := by decide
-- the hypotheses of C15_complete are met: `Lemmas/Suite.lean` proves `representable exampleSuite` for the
-- unregistered string above, and shows "QA08" and "T1" not representable

end OtpVerif.Props.C15

#print axioms OtpVerif.Props.C15.C15_registry
#print axioms OtpVerif.Props.C15.C15_consistent
#print axioms OtpVerif.Props.C15.C15_model_registry
#print axioms OtpVerif.Props.C15.C15_newRawSuite
#print axioms OtpVerif.Props.C15.C15_rejects
#print axioms OtpVerif.Props.C15.C15_complete
#print axioms OtpVerif.Props.C15.C15_iff
#print axioms OtpVerif.Props.C15.C15_registered
#print axioms OtpVerif.Props.C15.C15_exact
#print axioms OtpVerif.Props.C15.C15_instantiable

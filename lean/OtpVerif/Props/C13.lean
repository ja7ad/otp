/-
C13 — validation verdicts are unambiguous; errors never leak secret or expected code.
Part (a), here: every validation returns (true, nil) or (false, some error) – for *all* arguments, without
any domain restriction – and never panics.  Part (b) (error texts) is `C13_noleak_sites` below, over the
regenerated table of error-construction sites.
-/
import OtpVerif.Props.C06
import OtpVerif.Lemmas.Otp
import OtpVerif.Gen.Sites

namespace OtpVerif.Props.C13
open OtpVerif OtpVerif.Model OtpVerif.Lemmas

/-- C13 (HOTP): for every secret text, string, counter and parameter set -/
theorem C13_hotp (O : HashOracle) (s code : Bytes) (c : Nat) (p : Option Param) :
    validateHOTP O s code c p = .ok (true, none) ∨ ∃ e, validateHOTP O s code c p = .ok (false, some e) := by
  unfold validateHOTP
  simp only
  split
  · exact .inr ⟨_, rfl⟩
  · split
    · exact .inr ⟨_, rfl⟩
    · exact absurd ‹_› (decodeSecret_no_panic s)
    · exact windowVerdict _ (hotpProbe_total _ (fun _ => ⟨_, accepted_validate ..⟩) c) ..

/-- C13 (TOTP): for every secret text, string, instant and parameter set (period a Go `uint`, i.e. < 2^64) -/
theorem C13_totp (O : HashOracle) (s code : Bytes) (sec : Int) (p : Option Param) (hP : (resolveTOTP p).period < 2 ^ 64) :
    validateTOTP O s code sec p = .ok (true, none) ∨ ∃ e, validateTOTP O s code sec p = .ok (false, some e) := by
  unfold validateTOTP
  simp only
  split
  · exact .inr ⟨_, rfl⟩
  · split
    · exact .inr ⟨_, rfl⟩
    · exact absurd ‹_› (decodeSecret_no_panic s)
    · rw [timeCounter_eq sec _ (effPeriod_pos _) (effPeriod_lt hP)]
      exact windowVerdict _ (fun _ => ⟨_, accepted_validate ..⟩) ..

/-- C13 (OCRA): for every secret text, string, suite configuration and input -/
theorem C13_ocra (O : HashOracle) (s code : Bytes) (cfg : SuiteConfig) (i : OCRAInput) :
    validateOCRA O s code cfg i = .ok (true, none) ∨ ∃ e, validateOCRA O s code cfg i = .ok (false, some e) :=
  Props.C06.C06_total O s code cfg i

/-- generation likewise never panics: a code or an error -/
theorem C13_generate_total (O : HashOracle) (s : Bytes) (c : Nat) (p : Option Param) :
    (∃ code, generateHOTP O s c p = .ok code) ∨ ∃ e, generateHOTP O s c p = .err e :=
  Out.ok_or_err (generateHOTP_no_panic O s c p)

/-- C13 (b), regenerated from go/ssa (library native + js/wasm, wasm binding, REST layer): no `errors.New` /
`fmt.Errorf` site has an argument derived from the secret text, the decoded key, or an HMAC output (the
expected code); the sentinel errors are argument-free literals.  (Error results of `encoding/*` decoders
carry a position or one input byte – a stdlib summary, trusted; error texts are also checked dynamically
against the secret / key / accepted codes on every failing op of the correspondence run.) -/
theorem C13_noleak_sites : Gen.errSites.all (fun s => !s.argS && !s.argH) = true := by decide

example : Gen.errSites.length ≥ 30 := by decide +kernel

end OtpVerif.Props.C13

#print axioms OtpVerif.Props.C13.C13_hotp
#print axioms OtpVerif.Props.C13.C13_totp
#print axioms OtpVerif.Props.C13.C13_ocra
#print axioms OtpVerif.Props.C13.C13_generate_total
#print axioms OtpVerif.Props.C13.C13_noleak_sites

/-
C20 — the WebAssembly/JavaScript binding gives the same answers as the native library  (PARTIAL: see DESIGN.md).
Proved: the js/wasm derivation and validation (second implementation: hash switch, `pow10Wasm`, FormatUint +
padding) equal the native ones on the supported domain; the binding's window loops accept exactly the native
windows; wrong argument counts / types give an `error:` string; the JavaScript package exports each function
under its own name.  V8, wasm_exec.js and syscall/js are exercised by the `wasmcorr` engine (real module under
Node, globals and package exports), not modelled.
-/
import OtpVerif.Model.Wasm
import OtpVerif.Lemmas.Wasm
import OtpVerif.Lemmas.Otp
import OtpVerif.Props.C13
import OtpVerif.Gen.JsExports

namespace OtpVerif.Props.C20
open OtpVerif OtpVerif.Model OtpVerif.Model.Wasm OtpVerif.Lemmas

/-- C20 (derivation): for every key, counter, supported length and hash the js/wasm derivation returns what
the native derivation returns (hence the RFC 4226 value) -/
theorem C20_derive (O : HashOracle) (k : Bytes) (c d a : Nat) (hd1 : 1 ≤ d) (hd2 : d ≤ 10) (ha : a < 3) :
    deriveWasm O k c d a = deriveRFC4226 O k c d a :=
  deriveWasm_eq O k c d a

/-- C20 (validation core): `ValidateOTPWasm` = the native per-counter validation -/
theorem C20_validate_core (O : HashOracle) (code k : Bytes) (c d a : Nat) (hd1 : 1 ≤ d) (hd2 : d ≤ 10) (ha : a < 3) :
    validateWasm O code k c d a = validateRFC4226 O code k c d a :=
  validateWasm_native O code k c d a

/-- C20 (HOTP window): for 0 ≤ c, c + s < 2^63 the binding's loop accepts exactly the native window
[max(0, c−s), c+s] -/
theorem wasmWindow_iff (chk : Nat → Bool) (c s : Nat) (hov : c + s < 2 ^ 63) :
    windowLoop (wasmHotpProbe (fun x => .ok (chk x)) (c : Int)) (s : Int) (2 * s + 1) (-(s : Int)) = .ok true ↔
      ∃ c', c - s ≤ c' ∧ c' ≤ c + s ∧ chk c' = true := by
  rw [wasmHotpProbe_eq _ c (by omega), hotpWindow_eq chk c s (by omega)]
  simp only [Out.ok.injEq, List.any_eq_true, mem_span, Bool.and_eq_true, decide_eq_true_eq, and_assoc]
  exact window_plain (chk · = true) c s (by omega)

/-- C20 (TOTP verdicts): for every decodable secret, every code, instant, period ≥ 1 and skew ≤ 10 the binding's
`validateTOTP` returns exactly the native verdict (the two window loops are the same function of the per-step check,
and the per-step checks agree by `validateWasm_native`) -/
theorem C20_validateTOTP (O : HashOracle) (secret code key d a : Bytes) (ts s per : Nat)
    (hs : decodeSecret secret = .ok key) (hne : secret ≠ [] ∧ code ≠ [] ∧ d ≠ [] ∧ a ≠ [])
    (hsk : s ≤ 10) (hper : 1 ≤ per) :
    jsValidateTOTP O [.str secret, .str code, .int ts, .str d, .str a, .int s, .int per] =
      (match validateTOTP O secret code ts (some ⟨Rest.digitsFromStr d, per, s, Rest.algoFromStr a⟩) with
       | .ok (b, _) => .bool b
       | _ => .error) := by
  have hep : effPeriod per = per := if_neg (Nat.ne_of_gt hper)
  unfold jsValidateTOTP validateTOTP
  simp only [parseStringArg_str hne.1, parseStringArg_str hne.2.1, parseStringArg_str hne.2.2.1,
    parseStringArg_str hne.2.2.2, parseIntArg_nat, hs, resolveTOTP]
  rw [if_neg (by omega), if_neg (by omega), if_neg (by omega), hep, Int.toNat_natCast, Int.toNat_natCast]
  simp only [validateWasm_native]
  cases timeCounter (ts : Int) per with
  | ok counter => exact js_of_loop _
  | err e => rfl
  | panic => rfl

/-- C20 (HOTP verdicts): on the common domain (counter 0..2^53, skew 0..10, digits/hash by the shared FromStr
functions, hence supported) the binding's `validateHOTP` answers `true` exactly when the native `ValidateHOTP`
does, for every secret text and every submitted code -/
theorem C20_validateHOTP (O : HashOracle) (secret code key d a : Bytes) (c s : Nat)
    (hs : decodeSecret secret = .ok key) (hne : secret ≠ [] ∧ code ≠ [] ∧ d ≠ [] ∧ a ≠ [])
    (hc : c ≤ 2 ^ 53) (hsk : s ≤ 10) :
    jsValidateHOTP O [.str secret, .str code, .int c, .str d, .str a, .int s] = .bool true ↔
      validateHOTP O secret code c (some ⟨Rest.digitsFromStr d, 0, s, Rest.algoFromStr a⟩) = .ok (true, none) := by
  rw [jsValidateHOTP_eq O secret code key d a c s hs hne (by omega) hsk]
  rcases Props.C13.C13_hotp O secret code c (some ⟨Rest.digitsFromStr d, 0, s, Rest.algoFromStr a⟩) with h | ⟨e, h⟩ <;>
    rw [h] <;> simp

/-- C20 (generation): on the common domain the binding's `generateHOTP` returns the native code -/
theorem C20_generateHOTP (O : HashOracle) (secret d a : Bytes) (c : Nat)
    (hne : secret ≠ [] ∧ d ≠ [] ∧ a ≠ []) (hc : c < 2 ^ 63) :
    jsGenerateHOTP O [.str secret, .int c, .str d, .str a] =
      (match generateHOTP O secret c (some ⟨Rest.digitsFromStr d, 0, 0, Rest.algoFromStr a⟩) with
       | .ok code => .str code
       | _ => .error) := by
  unfold jsGenerateHOTP
  simp only [parseStringArg_str hne.1, parseStringArg_str hne.2.1, parseStringArg_str hne.2.2, parseIntArg_nat]
  rw [toU64_nonneg _ (by omega) (by omega), Int.toNat_natCast]
  exact generateOTP_eq O secret c _ _ 0 0

/-- C20 (errors): a wrong number of arguments is answered with an `error:` string -/
theorem C20_arity (O : HashOracle) (args : List JsVal) :
    (args.length ≠ 4 → jsGenerateHOTP O args = .error) ∧ (args.length ≠ 5 → jsGenerateTOTP O args = .error) ∧
    (args.length ≠ 6 → jsValidateHOTP O args = .error) ∧ (args.length ≠ 7 → jsValidateTOTP O args = .error) ∧
    (args.length ≠ 6 → jsGenerateOTPURL args = .error) := by
  unfold jsGenerateHOTP jsGenerateTOTP jsValidateHOTP jsValidateTOTP jsGenerateOTPURL
  refine ⟨?_, ?_, ?_, ?_, ?_⟩ <;> intro h <;> split
  -- the wildcard cases; in the others the list has the length that `h` excludes
  any_goals rfl
  all_goals exact absurd rfl h

/-- C20 (errors): only a non-empty string is a string argument, only a number with non-negative `Int()` is an
integer argument – undefined, null, booleans, NaN, ±∞, huge and negative numbers, objects, arrays, functions,
symbols and BigInts are refused -/
theorem C20_arg_types (v : JsVal) :
    (∀ s, parseStringArg v = some s ↔ v = .str s ∧ s ≠ []) ∧ (∀ z, parseIntArg v = some z ↔ v = .int z ∧ 0 ≤ z) := by
  constructor <;> intro s <;> cases v <;> simp [parseStringArg, parseIntArg]
  -- what is left, for `v` a `str` / `int`: the test on its content against the same test on the result
  all_goals rw [and_comm, and_congr_right_iff]; rintro rfl; rfl

/-- C20 (errors): a malformed first argument makes every function answer `error:` (same for the other positions) -/
theorem C20_bad_first (O : HashOracle) (v : JsVal) (rest : List JsVal) (h : parseStringArg v = none) :
    jsGenerateHOTP O (v :: rest) = .error ∧ jsValidateHOTP O (v :: rest) = .error ∧ jsGenerateOTPURL (v :: rest) = .error := by
  unfold jsGenerateHOTP jsValidateHOTP jsGenerateOTPURL
  refine ⟨?_, ?_, ?_⟩ <;> split
  any_goals rfl
  -- the list has the right length: its head is `v`, and the inner `match` meets `none`
  all_goals rename_i heq; cases heq; simp only [h]

/-- C20 (exports): every name the JavaScript package exports is bound to the global of the same name, that
global is registered by the Go program, and all five functions are exported (regenerated from index.js and
wasm/main.go) -/
theorem C20_exports :
    Gen.jsExports.all (fun e => e.1 == e.2 && Gen.wasmGlobals.contains e.2) = true ∧
    Gen.wasmGlobals.all (fun g => Gen.jsExports.any (fun e => e.1 == g)) = true ∧
    Gen.wasmGlobals.length = 5 := by decide

/-- C20 (TOTP generation): for periods 1..3600 the binding's `generateTOTP` returns the native code -/
theorem C20_generateTOTP (O : HashOracle) (secret d a : Bytes) (ts per : Nat)
    (hne : secret ≠ [] ∧ d ≠ [] ∧ a ≠ []) (hper : 1 ≤ per) (hper2 : per ≤ 3600) :
    jsGenerateTOTP O [.str secret, .int ts, .str d, .str a, .int per] =
      (match generateTOTP O secret ts (some ⟨Rest.digitsFromStr d, per, 0, Rest.algoFromStr a⟩) with
       | .ok code => .str code
       | _ => .error) := by
  have hep : effPeriod (resolveTOTP (some ⟨Rest.digitsFromStr d, per, 0, Rest.algoFromStr a⟩)).period = per :=
    if_neg (Nat.ne_of_gt hper)
  rw [generateTOTP_eq O secret ts _ (by rw [hep]; omega), hep]
  unfold jsGenerateTOTP
  simp only [parseStringArg_str hne.1, parseStringArg_str hne.2.1, parseStringArg_str hne.2.2, parseIntArg_nat]
  rw [if_neg (by omega), Int.toNat_natCast, timeCounter_eq ts per hper (by omega)]
  exact generateOTP_eq O secret _ _ _ per 0

/-- C20 (period range): outside 1..3600 `generateTOTP` answers with an error string -/
theorem C20_period_range (O : HashOracle) (secret d a : Bytes) (ts : Nat) (per : Int)
    (hne : secret ≠ [] ∧ d ≠ [] ∧ a ≠ []) (h : per ≤ 0 ∨ 3600 < per) :
    jsGenerateTOTP O [.str secret, .int ts, .str d, .str a, .int per] = .error := by
  unfold jsGenerateTOTP
  simp only [parseStringArg_str hne.1, parseStringArg_str hne.2.1, parseStringArg_str hne.2.2, parseIntArg_nat]
  split
  · rename_i hp
    obtain ⟨⟨⟩, _⟩ := ((C20_arg_types _).2 _).mp hp
    rw [if_pos h]
  · rfl

/-- C20 (URL): the binding's `generateOTPURL` is the native URL builder applied to the same fields (period left to
its default), rendered with `URL.String()` -/
theorem C20_url (ty issuer account secret d a : Bytes) (hne : ty ≠ [] ∧ issuer ≠ [] ∧ account ≠ [] ∧ secret ≠ [] ∧ d ≠ [] ∧ a ≠ []) :
    jsGenerateOTPURL [.str ty, .str issuer, .str account, .str secret, .str d, .str a] =
      (let p : URLParam := { issuer := issuer, account := account, secret := secret, digits := Rest.digitsFromStr d,
                             algo := Rest.algoFromStr a, period := 0 }
       if ty = Rest.sTotpB then (match generateTOTPURL p with | .ok u => .str (Std.Url.urlString u) | _ => .error)
       else if ty = Rest.sHotpB then (match generateHOTPURL p with | .ok u => .str (Std.Url.urlString u) | _ => .error)
       else .error) := by
  unfold jsGenerateOTPURL
  simp only [parseStringArg_str hne.1, parseStringArg_str hne.2.1, parseStringArg_str hne.2.2.1,
    parseStringArg_str hne.2.2.2.1, parseStringArg_str hne.2.2.2.2.1, parseStringArg_str hne.2.2.2.2.2]
  by_cases h1 : ty = Rest.sTotpB
  · simp only [h1, if_true]
    cases generateTOTPURL _ <;> rfl
  · simp only [h1, if_false]
    by_cases h2 : ty = Rest.sHotpB
    · simp only [h2, if_true]
      cases generateHOTPURL _ <;> rfl
    · simp only [h2, if_false]

end OtpVerif.Props.C20

#print axioms OtpVerif.Props.C20.C20_derive
#print axioms OtpVerif.Props.C20.C20_validate_core
#print axioms OtpVerif.Props.C20.wasmWindow_iff
#print axioms OtpVerif.Props.C20.C20_validateHOTP
#print axioms OtpVerif.Props.C20.C20_generateHOTP
#print axioms OtpVerif.Props.C20.C20_arity
#print axioms OtpVerif.Props.C20.C20_arg_types
#print axioms OtpVerif.Props.C20.C20_bad_first
#print axioms OtpVerif.Props.C20.C20_exports
#print axioms OtpVerif.Props.C20.C20_validateTOTP
#print axioms OtpVerif.Props.C20.C20_generateTOTP
#print axioms OtpVerif.Props.C20.C20_period_range
#print axioms OtpVerif.Props.C20.C20_url

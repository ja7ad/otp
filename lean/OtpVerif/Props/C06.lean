/-
C06 — OCRA validation accepts a string iff generation returns it for the same data.
-/
import OtpVerif.Props.C05
import OtpVerif.Lemmas.Validate
import OtpVerif.Lemmas.DecodeSecret

namespace OtpVerif.Props.C06
open OtpVerif OtpVerif.Model OtpVerif.Lemmas OtpVerif.Props.C05

theorem deriveRFC6287_no_panic (O : HashOracle) (k : Bytes) (cfg : SuiteConfig) (i : OCRAInput) :
    deriveRFC6287 O k cfg i ≠ .panic := by
  rw [deriveRFC6287_eq]
  cases suiteValidate cfg <;> cases inputValidate i cfg <;> nofun

theorem derive_len (O : HashOracle) (k : Bytes) (cfg : SuiteConfig) (i : OCRAInput) (code : Bytes)
    (h : deriveRFC6287 O k cfg i = .ok code) : (code.length : Int) = cfg.digits := by
  rw [deriveRFC6287_eq] at h
  cases hv : suiteValidate cfg <;> cases hi : inputValidate i cfg <;> rw [hv, hi] at h <;> cases h
  rw [(C05_shape O k cfg i).1]
  have := ((suiteValidate_iff cfg).mp hv).1
  omega

/-- C06, main clause: validation returns `(true, nil)` iff the submitted string is byte-for-byte what
generation returns for the same secret, suite and input — for *every* secret text, suite configuration
(valid or not), input (admissible or not) and string -/
theorem C06_iff (O : HashOracle) (s code : Bytes) (cfg : SuiteConfig) (i : OCRAInput) :
    validateOCRA O s code cfg i = .ok (true, none) ↔ generateOCRA O s cfg i = .ok code := by
  unfold validateOCRA generateOCRA
  split
  · exact (validate_true_iff ..).trans ⟨fun h => h.2, fun h => ⟨derive_len O _ cfg i code h, h⟩⟩
  · exact ⟨nofun, nofun⟩
  · exact ⟨nofun, nofun⟩

/-- C06, totality: validation never panics and always answers (true, nil) or (false, some error) -/
theorem C06_total (O : HashOracle) (s code : Bytes) (cfg : SuiteConfig) (i : OCRAInput) :
    validateOCRA O s code cfg i = .ok (true, none) ∨ ∃ e, validateOCRA O s code cfg i = .ok (false, some e) := by
  unfold validateOCRA
  split
  · exact validate_isVerdict code _ (deriveRFC6287_no_panic O _ cfg i)
  · exact .inr ⟨_, rfl⟩
  · exact absurd ‹_› (decodeSecret_no_panic s)

/-- C06, failure clause: whenever generation would fail (undecodable secret, invalid suite, inadmissible
input) validation returns false together with an error -/
theorem C06_fail (O : HashOracle) (s code : Bytes) (cfg : SuiteConfig) (i : OCRAInput) (e : Err)
    (h : generateOCRA O s cfg i = .err e) : ∃ e', validateOCRA O s code cfg i = .ok (false, some e') :=
  (C06_total O s code cfg i).resolve_left fun ht => by rw [(C06_iff O s code cfg i).mp ht] at h; cases h

/-- every generated code validates -/
theorem C06_self (O : HashOracle) (s code : Bytes) (cfg : SuiteConfig) (i : OCRAInput)
    (h : generateOCRA O s cfg i = .ok code) : validateOCRA O s code cfg i = .ok (true, none) :=
  (C06_iff O s code cfg i).mpr h

end OtpVerif.Props.C06

#print axioms OtpVerif.Props.C06.C06_iff
#print axioms OtpVerif.Props.C06.C06_fail
#print axioms OtpVerif.Props.C06.C06_total
#print axioms OtpVerif.Props.C06.C06_self
#print axioms OtpVerif.Props.C06.deriveRFC6287_no_panic

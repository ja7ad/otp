/-
C02 — TOTP code = HOTP code at floor(unix time / period), with consistent defaults.
The model of `GenerateTOTP` / `ValidateTOTP` takes only the Unix seconds of the instant; that the real
code depends on nothing else (nanoseconds, zone, monotonic reading) is what the `gtotp` / `vtotp`
correspondence ops check, by sending all four fields to the implementation.
-/
import OtpVerif.Props.C01
import OtpVerif.Lemmas.Otp

namespace OtpVerif.Props.C02
open OtpVerif OtpVerif.Model OtpVerif.Lemmas OtpVerif.Props.C01

/-- the period actually used: 0 means 30 s, in generation, validation and provisioning URLs alike -/
def per (p : Option Param) : Nat := effPeriod (resolveTOTP p).period

/-- C02, main clause: for every instant at or after the epoch (seconds < 2^63) and every period < 2^64 (0 = 30 s)
the TOTP code is the HOTP code for the counter ⌊seconds / period⌋ with the same digits and hash -/
theorem C02_totp_eq_hotp (O : HashOracle) (s : Bytes) (sec : Int) (p : Option Param)
    (h0 : 0 ≤ sec) (h1 : sec < 2 ^ 63) (hP : per p < 2 ^ 64) :
    generateTOTP O s sec p = generateHOTP O s (sec.toNat / per p) (some (resolveTOTP p)) := by
  rw [generateTOTP_eq O s sec p hP, toU64_nonneg sec h0 (by omega)]
  rfl

/-- hence it is the RFC 4226 value at that counter -/
theorem C02_totp_eq_rfc (O : HashOracle) (s k : Bytes) (sec : Int) (p : Option Param)
    (hs : decodeSecret s = .ok k) (h0 : 0 ≤ sec) (h1 : sec < 2 ^ 63) (hP : per p < 2 ^ 64)
    (hd1 : 1 ≤ (resolveTOTP p).digits) (hd2 : (resolveTOTP p).digits ≤ 10) (ha : (resolveTOTP p).algo < 3) :
    generateTOTP O s sec p = .ok (Spec.hotp O.hmac (resolveTOTP p).algo k (sec.toNat / per p) (resolveTOTP p).digits) := by
  rw [C02_totp_eq_hotp O s sec p h0 h1 hP]
  exact C01_generate_eq_rfc O s k _ (some (resolveTOTP p)) hs hd1 hd2 ha

/-- the counter is constant inside a time step and changes exactly at the step boundaries n·P -/
theorem C02_step (P n x : Nat) (hP : 0 < P) (hlo : n * P ≤ x) (hhi : x < (n + 1) * P) : x / P = n :=
  Nat.div_eq_of_lt_le hlo hhi

theorem C02_boundary (P n : Nat) (hP : 0 < P) : (n * P) / P = n ∧ (n ≥ 1 → (n * P - 1) / P = n - 1) := by
  refine ⟨Nat.mul_div_cancel _ hP, fun hn => ?_⟩
  -- `n = m + 1`: the last second of step `m` is `m * P + P - 1`
  obtain ⟨m, rfl⟩ : ∃ m, n = m + 1 := ⟨n - 1, by omega⟩
  rw [Nat.add_one_mul]
  exact C02_step P m _ hP (by omega) (by rw [Nat.add_one_mul]; omega)

/-- defaults: absent parameters mean SHA-1, 6 digits, 30 s (regenerated `DefaultTOTPParam`); a zero period
means 30 s. Generation and validation resolve parameters through the same two functions. -/
theorem C02_defaults : resolveTOTP none = { digits := 6, period := 30, skew := 0, algo := 0 } ∧ effPeriod 0 = 30 ∧
    (∀ P, P ≠ 0 → effPeriod P = P) := by
  refine ⟨by decide, by decide, fun P h => ?_⟩
  unfold effPeriod; rw [if_neg h]

-- non-vacuity
example : (0 : Int) ≤ 59 ∧ (59 : Int) < 2 ^ 63 ∧ per none < 2 ^ 64 := by decide
example : per (some ⟨8, 0, 0, 1⟩) = 30 := by decide

end OtpVerif.Props.C02

#print axioms OtpVerif.Props.C02.C02_totp_eq_hotp
#print axioms OtpVerif.Props.C02.C02_totp_eq_rfc
#print axioms OtpVerif.Props.C02.C02_step
#print axioms OtpVerif.Props.C02.C02_boundary
#print axioms OtpVerif.Props.C02.C02_defaults

/-
C17 — OCRA input helpers encode as documented; numeric questions follow RFC 6287.
-/
import OtpVerif.Model.Utils
import OtpVerif.Lemmas.Numeral
import OtpVerif.Props.C05

namespace OtpVerif.Props.C17
open OtpVerif OtpVerif.Model OtpVerif.Lemmas

def beValue (b : Bytes) : Nat := b.foldl (fun n x => n * 256 + x.toNat) 0

theorem be8_eq_digits (v : Nat) : be8 v = (List.range 8).map (fun j => (v / 256 ^ (8 - 1 - j) % 256).toUInt8) := by
  simp [be8, List.range, List.range.loop]

theorem beValue_be8 (v : Nat) : beValue (be8 v) = v % 2 ^ 64 := by
  rw [be8_eq_digits]
  exact val_digits 256 UInt8.toNat (fun n => (n % 256).toUInt8) (fun n => toUInt8_toNat _ (Nat.mod_lt n (by decide))) 8 v

/-- `be8 v` really is the 8-byte big-endian representation of `v` (for v < 2^64) -/
theorem be8_value (v : Nat) (h : v < 2 ^ 64) : beValue (be8 v) = v ∧ (be8 v).length = 8 :=
  ⟨(beValue_be8 v).trans (Nat.mod_eq_of_lt h), rfl⟩

/-- C17: `To8ByteBigEndian` (the shift/mask loop) is the 8-byte big-endian counter, for every 64-bit value -/
theorem C17_to8 (v : Nat) : to8ByteBigEndian v = be8 v := by
  unfold to8ByteBigEndian
  rw [digitLoop_eq 256 (fun v => (v % 256).toUInt8) to8Loop (fun _ _ => rfl) (fun _ _ _ => rfl) 8 v _ (by simp), be8_eq_digits]
  simp

/-- C17: decimal strings become the 8-byte big-endian counter; everything that is not a non-empty string of
ASCII digits with value < 2^64 (signs, spaces, empty, overflow) is rejected -/
theorem C17_dec8 (s : Bytes) :
    parseDecimalToBE8 s =
      if s ≠ [] ∧ s.all isDigitChar = true ∧ decValue s < 2 ^ 64 then .ok (be8 (decValue s)) else .err .badNumber := by
  unfold parseDecimalToBE8 parseUint64
  cases s with
  | nil => simp
  | cons c t =>
    simp only [List.isEmpty_cons, Bool.false_eq_true, if_false, ne_eq, reduceCtorEq, not_false_eq_true, true_and]
    by_cases hd : (c :: t).all isDigitChar = true
    · rw [if_pos hd]
      by_cases hv : decValue (c :: t) < 2 ^ 64
      · rw [if_pos hv, if_pos ⟨hd, hv⟩]; simp only [C17_to8]
      · rw [if_neg hv, if_neg (fun h => hv h.2)]
    · rw [if_neg hd, if_neg (fun h => hd h.1)]

example : parseDecimalToBE8 [50, 53, 54] = .ok [0, 0, 0, 0, 0, 0, 1, 0] := rfl

def hexValue (s : Bytes) : Nat := s.foldl (fun n c => n * 16 + (unhex c).getD 0) 0

def isHexChar (c : UInt8) : Bool := (unhex c).isSome

/-- one hexadecimal digit; `hexValue = Pos.val 16 hexd` and `beValue = Pos.val 256 UInt8.toNat` by `rfl` -/
abbrev hexd (c : UInt8) : Nat := (unhex c).getD 0

theorem hexValue_lt (s : Bytes) : hexValue s < 16 ^ s.length :=
  Pos.val_lt 16 hexd s (fun c _ => unhex_getD_lt c)

theorem hexValue_drop (s : Bytes) (k : Nat) (hk : k ≤ s.length) : hexValue (s.drop (s.length - k)) = hexValue s % 16 ^ k := by
  have h := (Pos.val_take_drop 16 hexd s (s.length - k) fun c _ => unhex_getD_lt c).2
  rwa [Nat.sub_sub_self hk] at h

theorem hexValue_zeros_append (k : Nat) (s : Bytes) : hexValue (List.replicate k 48 ++ s) = hexValue s :=
  Pos.val_zeros_append 16 hexd 48 rfl k s

theorem hexValue_append_zeros (k : Nat) (s : Bytes) : hexValue (s ++ List.replicate k 48) = hexValue s * 16 ^ k :=
  Pos.val_append_zeros 16 hexd 48 rfl k s

theorem all_hex_zeros (k : Nat) : (List.replicate k (48 : UInt8)).all isHexChar = true := by
  rw [List.all_replicate]; split <;> rfl

/-- `hex.DecodeString` on success: the bytes spell the same number, two digits per byte -/
theorem hexDecode_value : ∀ (s b : Bytes), hexDecode s = some b →
    (∀ init : Nat, b.foldl (fun n x => n * 256 + x.toNat) init = s.foldl (fun n c => n * 16 + (unhex c).getD 0) init) ∧
    2 * b.length = s.length
  | [], b, h => by simp [hexDecode] at h; subst h; simp
  | [_], b, h => by simp [hexDecode] at h
  | h :: l :: rest, b, hb => by
    unfold hexDecode at hb
    split at hb
    · next a b' r ha hl hr =>
      injection hb with hb; subst hb
      obtain ⟨ih1, ih2⟩ := hexDecode_value rest r hr
      have hlt : a * 16 + b' < 256 := by have := unhex_lt h a ha; have := unhex_lt l b' hl; omega
      refine ⟨fun init => ?_, by simp only [List.length_cons]; omega⟩
      simp only [List.foldl_cons, ha, hl, Option.getD_some, toUInt8_toNat _ hlt]
      rw [ih1, Nat.add_mul, Nat.mul_assoc, Nat.add_assoc]
    · cases hb

/-- … and it succeeds exactly on an even number of hexadecimal digits -/
theorem hexDecode_isSome : ∀ (s : Bytes), (hexDecode s).isSome = (s.length % 2 == 0 && s.all isHexChar)
  | [] => rfl
  | [c] => by simp [hexDecode]
  | h :: l :: rest => by
    have ih := hexDecode_isSome rest
    have hm : (rest.length + 1 + 1) % 2 = rest.length % 2 := by omega
    unfold hexDecode
    simp only [List.length_cons, List.all_cons, isHexChar, hm]
    cases unhex h with
    | none => simp
    | some a =>
      cases unhex l with
      | none => simp
      | some b' =>
        simp only [Option.isSome_some, Bool.true_and]
        cases hr : hexDecode rest <;> rw [hr] at ih <;> exact ih

theorem hexDecode_ok (s : Bytes) (he : s.length % 2 = 0) (hh : s.all isHexChar = true) :
    ∃ b, hexDecode s = some b ∧ 2 * b.length = s.length ∧ beValue b = hexValue s := by
  have hsome := hexDecode_isSome s
  rw [he, hh] at hsome
  obtain ⟨b, hb⟩ := Option.isSome_iff_exists.mp hsome
  exact ⟨b, hb, (hexDecode_value s b hb).2, (hexDecode_value s b hb).1 0⟩

theorem hexDecode_none (s : Bytes) (h : s.length % 2 = 1 ∨ s.all isHexChar = false) : hexDecode s = none := by
  have hsome := hexDecode_isSome s
  rcases h with h | h <;> rw [h] at hsome <;> simpa using hsome

/-- C17: hex request fields: "" ↦ empty, valid even-length hex ↦ its bytes, anything else ⇒ error -/
theorem C17_hexinput (a b c d e : Bytes) :
    hexInputToOCRA a b c d e =
      match hexField a, hexField b, hexField c, hexField d, hexField e with
      | some a', some b', some c', some d', some e' => .ok ⟨a', b', c', d', e'⟩
      | _, _, _, _, _ => .err .badHex := rfl

theorem C17_hexfield_empty : hexField [] = some [] := rfl

/-- C17: `LeftPadHex` for non-negative widths -/
theorem C17_leftpad (s : Bytes) (w : Nat) :
    leftPadHex s w = .ok (if s.length ≥ w then s.drop (s.length - w) else List.replicate (w - s.length) 48 ++ s) := by
  unfold leftPadHex
  by_cases h : s.length ≥ w
  · rw [if_pos (by omega), if_neg (by omega), if_pos h]; rfl
  · rw [if_neg (by omega), if_neg h]; rfl

theorem C17_leftpad_len (s : Bytes) (w : Nat) (r : Bytes) (h : leftPadHex s w = .ok r) : r.length = w := by
  rw [C17_leftpad] at h
  injection h with h
  subst h
  split <;> simp <;> omega

theorem leftPadHex_hex (s : Bytes) (w : Nat) (hh : s.all isHexChar = true) :
    ∃ p, leftPadHex s w = .ok p ∧ p.length = w ∧ p.all isHexChar = true ∧ hexValue p = hexValue s % 16 ^ w := by
  rw [C17_leftpad]
  refine ⟨_, rfl, ?_⟩
  split
  · next hlen =>
    exact ⟨by rw [List.length_drop]; omega,
      List.all_eq_true.mpr fun c hc => List.all_eq_true.mp hh c (List.mem_of_mem_drop hc), hexValue_drop s w hlen⟩
  · next hlen =>
    refine ⟨by simp; omega, by rw [List.all_append, all_hex_zeros, hh]; rfl, ?_⟩
    rw [hexValue_zeros_append, Nat.mod_eq_of_lt]
    exact Nat.lt_of_lt_of_le (hexValue_lt s) (Nat.pow_le_pow_right (by omega) (by omega))

/-- C17 (`MustHexPadLeft`): for a hexadecimal numeral the helper returns exactly `size` bytes whose value is the numeral's
value modulo 256^size — the rightmost digits are kept when the numeral is too long, zeros are added on the left when it is
too short (an argument that is not a hexadecimal numeral makes this documented Must* helper panic) -/
theorem C17_musthex (s : Bytes) (size : Nat) (hh : s.all isHexChar = true) :
    ∃ b, mustHexPadLeft s (size : Int) = .ok b ∧ b.length = size ∧ beValue b = hexValue s % 16 ^ (2 * size) := by
  obtain ⟨p, hp, hl, ha, hv⟩ := leftPadHex_hex s (2 * size) hh
  obtain ⟨b, hb, h2, hbv⟩ := hexDecode_ok p (by omega) ha
  refine ⟨b, ?_, by omega, hbv.trans hv⟩
  unfold mustHexPadLeft
  rw [show (size : Int) * 2 = ((2 * size : Nat) : Int) by omega, hp]
  simp only [hb]

/-- the text is padded to `max 16 length` digits, which must be an even number of hexadecimal digits -/
theorem parseHexTimestamp_spec (ts : Bytes) :
    (max 16 ts.length % 2 = 0 → ts.all isHexChar = true →
        ∃ b, parseHexTimestamp ts = .ok b ∧ 2 * b.length = max 16 ts.length ∧ beValue b = hexValue ts) ∧
    ((max 16 ts.length % 2 = 1 ∨ ts.all isHexChar = false) → parseHexTimestamp ts = .err .badHex) := by
  have hlen : (List.replicate (16 - ts.length) (48 : UInt8) ++ ts).length = max 16 ts.length := by simp; omega
  have hall : (List.replicate (16 - ts.length) (48 : UInt8) ++ ts).all isHexChar = ts.all isHexChar := by
    rw [List.all_append, all_hex_zeros, Bool.true_and]
  unfold parseHexTimestamp
  constructor
  · intro he hh
    obtain ⟨b, hb, h2, hv⟩ := hexDecode_ok _ (hlen ▸ he) (hall ▸ hh)
    exact ⟨b, by simp only [hb], h2.trans hlen, hv.trans (hexValue_zeros_append _ ts)⟩
  · intro h
    rw [← hlen, ← hall] at h
    simp only [hexDecode_none _ h]

/-- C17 (hex timestamps): a hexadecimal string of at most 16 digits becomes the 8-byte big-endian encoding of its
value; any other character is rejected -/
theorem C17_hexts (ts : Bytes) (hl : ts.length ≤ 16) :
    (ts.all isHexChar = true → ∃ b, parseHexTimestamp ts = .ok b ∧ b.length = 8 ∧ beValue b = hexValue ts) ∧
    (ts.all isHexChar = false → parseHexTimestamp ts = .err .badHex) := by
  obtain ⟨h1, h2⟩ := parseHexTimestamp_spec ts
  rw [show max 16 ts.length = 16 by omega] at h1 h2
  exact ⟨fun h => let ⟨b, hb, hn, hv⟩ := h1 rfl h; ⟨b, hb, by omega, hv⟩, fun h => h2 (Or.inr h)⟩

example : parseHexTimestamp [49, 51, 50, 100, 48, 98, 54] = .ok [0, 0, 0, 0, 0x01, 0x32, 0xd0, 0xb6] := rfl   -- "132d0b6"

/-- C17 (hex timestamps, beyond the documented 16 digits): nothing is padded; a text of even length made of hexadecimal
digits decodes to its value on `length / 2` bytes (more than 8: OCRA admission then refuses it), an odd length or any other
character is rejected.  With `C17_hexts` this characterises `ParseHexTimestamp` on every input. -/
theorem C17_hexts_long (ts : Bytes) (hl : 16 < ts.length) :
    (ts.length % 2 = 0 → ts.all isHexChar = true →
        ∃ b, parseHexTimestamp ts = .ok b ∧ 2 * b.length = ts.length ∧ beValue b = hexValue ts) ∧
    ((ts.length % 2 = 1 ∨ ts.all isHexChar = false) → parseHexTimestamp ts = .err .badHex) := by
  have := parseHexTimestamp_spec ts
  rwa [show max 16 ts.length = ts.length by omega] at this

example : parseHexTimestamp (List.replicate 18 49) = .ok (List.replicate 9 0x11) := rfl
example : parseHexTimestamp (List.replicate 17 49) = .err .badHex := rfl

theorem hexOfNatAux_eq : ∀ (fuel n : Nat) (acc : Bytes), n < fuel →
    ∃ ds, hexOfNatAux fuel n acc = ds ++ acc ∧ ds.all isHexChar = true ∧ hexValue ds = n := by
  intro fuel
  induction fuel with
  | zero => intro n acc h; omega
  | succ f ih =>
    intro n acc h
    unfold hexOfNatAux
    split
    · next hz => exact ⟨[], rfl, rfl, hz.symm⟩
    · obtain ⟨ds, e, ha, hv⟩ := ih (n / 16) (hexDigitUpper (n % 16) :: acc) (by omega)
      have hu : unhex (hexDigitUpper (n % 16)) = some (n % 16) := unhex_hexDigit _ (Nat.mod_lt _ (by omega))
      refine ⟨ds ++ [hexDigitUpper (n % 16)], by rw [e, List.append_assoc]; rfl, ?_, ?_⟩
      · rw [List.all_append, ha, List.all_cons, isHexChar, hu]; rfl
      · show Pos.val 16 hexd (ds ++ [_]) = n
        rw [Pos.val_concat, hexd, hu]
        show hexValue ds * 16 + n % 16 = n
        rw [hv, Nat.div_add_mod']

theorem hexOfNat_spec (n : Nat) : (hexOfNat n).all isHexChar = true ∧ hexValue (hexOfNat n) = n := by
  unfold hexOfNat
  split
  · next h => rw [h]; exact ⟨rfl, rfl⟩
  · obtain ⟨ds, e, ha, hv⟩ := hexOfNatAux_eq (n + 1) n [] (by omega)
    rw [e, List.append_nil]; exact ⟨ha, hv⟩

/-- the hexadecimal numeral produced for the question is correct: it denotes `n` -/
theorem C17_hexOfNat_value (n : Nat) : hexValue (hexOfNat n) = n := (hexOfNat_spec n).2

example : hexOfNat 12345678 = [66, 67, 54, 49, 52, 69] := rfl

theorem bigSetString_numeral (q : Bytes) (hne : q ≠ []) (hd : q.all isDigitChar = true) :
    bigSetString q = some (false, decValue q) := by
  unfold bigSetString
  rw [show splitSign q = (false, q) from splitSign_numeral q hd]
  simp only [List.isEmpty_eq_false_iff.mpr hne, hd, Bool.false_eq_true, if_false, if_true, Bool.false_and]

/-- C17: a decimal question (non-empty, ASCII digits only) is converted exactly as RFC 6287 prescribes:
decimal value ↦ upper-case hexadecimal numeral of that value, right-padded with '0' to 256 hex digits, hex-decoded -/
theorem C17_question (q : Bytes) (hne : q ≠ []) (hd : q.all isDigitChar = true) :
    parseDecimalChallenge q =
      (match hexDecode (hexOfNat (decValue q) ++ List.replicate (256 - (hexOfNat (decValue q)).length) 48) with
       | some b => .ok b
       | none => .err .badHex) := by
  unfold parseDecimalChallenge
  rw [bigSetString_numeral q hne hd]
  rfl

/-- C17 (numeric question, value form): the 128 challenge bytes are the hexadecimal numeral of the question's value,
left-aligned — i.e. their big-endian value is `value · 16^(256 − number of hex digits)` -/
theorem C17_question_value (q : Bytes) (hne : q ≠ []) (hd : q.all isDigitChar = true)
    (hfit : (hexOfNat (decValue q)).length ≤ 256) :
    ∃ b, parseDecimalChallenge q = .ok b ∧ b.length = 128 ∧
      beValue b = decValue q * 16 ^ (256 - (hexOfNat (decValue q)).length) := by
  rw [C17_question q hne hd]
  obtain ⟨b, hb, h2, hv⟩ := hexDecode_ok (hexOfNat (decValue q) ++ List.replicate (256 - (hexOfNat (decValue q)).length) 48)
    (by simp; omega) (by rw [List.all_append, (hexOfNat_spec _).1, all_hex_zeros]; rfl)
  refine ⟨b, by simp only [hb], by simp at h2; omega, ?_⟩
  rw [hv, hexValue_append_zeros, C17_hexOfNat_value]

/-- C17, end to end: a code computed from a numeric question through the helper is the RFC 6287 value for the
challenge bytes the conversion prescribes (composition with C05) -/
theorem C17_end2end (O : HashOracle) (s k q chal : Bytes) (cfg : SuiteConfig) (i : OCRAInput)
    (hs : decodeSecret s = .ok k) (hq : parseDecimalChallenge q = .ok chal)
    (hv : suiteValidate cfg = none) (hi : inputValidate { i with challenge := chal } cfg = none) :
    generateOCRA O s cfg { i with challenge := chal } = .ok (Spec.ocra O.hmac k cfg { i with challenge := chal }) :=
  Props.C05.C05_eq_rfc O s k cfg _ hs hv hi

-- RFC 6287 example: "12345678" ↦ BC614E followed by zeros
set_option maxRecDepth 4096 in
example : (parseDecimalChallenge [49, 50, 51, 52, 53, 54, 55, 56]) =
    .ok ([0xBC, 0x61, 0x4E] ++ List.replicate 125 0) := by decide +kernel

end OtpVerif.Props.C17

#print axioms OtpVerif.Props.C17.be8_value
#print axioms OtpVerif.Props.C17.C17_to8
#print axioms OtpVerif.Props.C17.C17_dec8
#print axioms OtpVerif.Props.C17.C17_leftpad
#print axioms OtpVerif.Props.C17.C17_leftpad_len
#print axioms OtpVerif.Props.C17.C17_hexinput
#print axioms OtpVerif.Props.C17.C17_hexOfNat_value
#print axioms OtpVerif.Props.C17.C17_question
#print axioms OtpVerif.Props.C17.C17_end2end
#print axioms OtpVerif.Props.C17.C17_hexts
#print axioms OtpVerif.Props.C17.C17_hexts_long
#print axioms OtpVerif.Props.C17.C17_question_value
#print axioms OtpVerif.Props.C17.hexDecode_value
#print axioms OtpVerif.Props.C17.hexDecode_isSome
#print axioms OtpVerif.Props.C17.C17_musthex

/-
C05 — OCRA codes are exactly the RFC 6287 value over the documented message layout.
A `Suite` value is modelled by its configuration (both library implementations delegate to it), so a
theorem over all `SuiteConfig`s covers registered names, parsed strings, `NewSuite` and bare
configurations alike; how names and strings become configurations is C15.
-/
import OtpVerif.Props.C14

namespace OtpVerif.Props.C05
open OtpVerif OtpVerif.Model OtpVerif.Lemmas OtpVerif.Props.C14

/-- C05, main clause: for every usable suite (any suite-string text incl. empty), every secret and every
admitted input, generation returns exactly the RFC 6287 value over the documented layout -/
theorem C05_eq_rfc (O : HashOracle) (s k : Bytes) (cfg : SuiteConfig) (i : OCRAInput)
    (hs : decodeSecret s = .ok k) (hv : suiteValidate cfg = none) (hi : inputValidate i cfg = none) :
    generateOCRA O s cfg i = .ok (Spec.ocra O.hmac k cfg i) := by
  unfold generateOCRA
  simp only [hs]
  exact derive_ok_of_valid O k cfg i hv hi

/-- the same in the property's vocabulary (documented enumeration ranges) -/
theorem C05_eq_rfc_spec (O : HashOracle) (s k : Bytes) (cfg : SuiteConfig) (i : OCRAInput)
    (hs : decodeSecret s = .ok k) (hr : Spec.enumsInRange cfg) (hu : Spec.usable cfg) (ha : Spec.admissible cfg i) :
    generateOCRA O s cfg i = .ok (Spec.ocra O.hmac k cfg i) :=
  C05_eq_rfc O s k cfg i hs ((C14_suite cfg).mpr hu) ((C14_input cfg i hr).mpr ha)

/-- C05, independence: input fields the suite does not select have no influence on the result
(code or error), for every suite and every pair of inputs agreeing on the selected fields -/
theorem C05_unselected (O : HashOracle) (s : Bytes) (cfg : SuiteConfig) (i i' : OCRAInput)
    (hC : cfg.incC = true → i.counter = i'.counter) (hQ : cfg.incQ = true → i.challenge = i'.challenge)
    (hP : cfg.incP = true → i.password = i'.password) (hS : cfg.incS = true → i.session = i'.session)
    (hT : cfg.incT = true → i.timestamp = i'.timestamp) :
    generateOCRA O s cfg i = generateOCRA O s cfg i' := by
  unfold generateOCRA deriveRFC6287
  rw [C14_unselected cfg i i' hC hQ hP hS hT, ocraMessage_unselected cfg i i' hC hQ hP hS hT]

/-- C05, shape: the code has exactly `digits` (4..10) decimal characters -/
theorem C05_shape (O : HashOracle) (k : Bytes) (cfg : SuiteConfig) (i : OCRAInput) :
    (Spec.ocra O.hmac k cfg i).length = cfg.digits.toNat ∧ (Spec.ocra O.hmac k cfg i).all isDigitChar = true := by
  unfold Spec.ocra
  exact ⟨zeroPad_length _ _, zeroPad_all_digits _ _⟩

/-- `NewSuite` hands back the configuration it was given (or refuses it) -/
theorem C05_newSuite (cfg cfg' : SuiteConfig) (h : newSuite cfg = .ok cfg') : cfg' = cfg ∧ suiteValidate cfg = none := by
  unfold newSuite at h
  cases hv : suiteValidate cfg with
  | some e => rw [hv] at h; cases h
  | none => rw [hv] at h; injection h with h; exact ⟨h.symm, rfl⟩

-- non-vacuity
example : suiteValidate { zeroCfg with digits := 6, incQ := true, challenge := 1 } = none := by decide
example : inputValidate ⟨[], List.replicate 8 48, [1,2,3], [], [9]⟩ { zeroCfg with digits := 6, incQ := true, challenge := 1 } = none := by decide

end OtpVerif.Props.C05

#print axioms OtpVerif.Props.C05.C05_eq_rfc
#print axioms OtpVerif.Props.C05.C05_eq_rfc_spec
#print axioms OtpVerif.Props.C05.C05_unselected
#print axioms OtpVerif.Props.C05.C05_shape
#print axioms OtpVerif.Props.C05.C05_newSuite

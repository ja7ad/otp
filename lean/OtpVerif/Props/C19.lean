/-
C19 — the REST service answers every request promptly and keeps serving  (PARTIAL: see DESIGN.md).
Proved about the handler model: totality with a closed set of status codes, success/failure separation,
statelessness (an earlier request cannot change a later answer), and a bound on the work a request
parameter can cause (a skew above 10 is refused before any HMAC; at most 21 HMACs otherwise).
Wall-clock latency, worker pools, slow clients and timeouts are runtime behaviour: the `restcorr` engine sends
hostile streams interleaved with probes to the real binary and enforces a latency bound, complete responses
and liveness, but that is observation, not proof.
-/
import OtpVerif.Model.Rest
import OtpVerif.Props.C03
import OtpVerif.Props.C04

namespace OtpVerif.Props.C19
open OtpVerif OtpVerif.Std OtpVerif.Model OtpVerif.Model.Rest

def okStatus (n : Nat) : Prop := n = 200 ∨ n = 302 ∨ n = 400 ∨ n = 404 ∨ n = 405 ∨ n = 500

theorem err_ok (n : Nat) (h : okStatus n) : okStatus (err n).status := h

/- Every handler is a tree of `if` / `match` / `recover` whose leaves are `err n` with a literal `n`, or `⟨200, _⟩`.
The lemmas below close the six statuses under these combinators, so that a handler's proof names its leaves and
never looks into a condition, a library call or a payload (`split` on an `if` simplifies the whole goal). -/
theorem ok200 (p : Payload) : okStatus (Resp.mk 200 p).status := .inl rfl
theorem ok400 : okStatus (err 400).status := by simp [okStatus, err]
theorem ok405 : okStatus (err 405).status := by simp [okStatus, err]
theorem ok500 : okStatus (err 500).status := by simp [okStatus, err]

theorem ok_ite {c : Prop} [Decidable c] {a b : Resp} (ha : okStatus a.status) (hb : okStatus b.status) :
    okStatus (if c then a else b).status := by
  split <;> assumption

theorem ok_recover {α} (o : Out α) (p : α → Payload) :
    okStatus (recover o (fun a => ⟨200, p a⟩) fun _ => err 500).status := by
  cases o
  · exact ok200 _
  all_goals exact ok500

/-- one test of a refusal chain (`validate()`) -/
theorem ok_refuse {c : Prop} [Decidable c] {a e : Resp} {x : Option Resp} (h : (if c then some a else x) = some e)
    (ha : okStatus a.status) (hx : x = some e → okStatus e.status) : okStatus e.status := by
  split at h
  · cases h; exact ha
  · exact hx h

theorem ocraValidateReq_status {r : OcraReq} {b : Bool} {e : Resp} (h : ocraValidateReq r b = some e) : okStatus e.status :=
  ok_refuse h ok400 fun h => ok_refuse h ok400 fun h => ok_refuse h ok400 fun h => ok_refuse h ok400 fun h =>
    ok_refuse h ok400 nofun

theorem ocraSuite_status {r : OcraReq} {e : Resp} (h : ocraSuite r = .error e) : okStatus e.status := by
  unfold ocraSuite at h
  repeat' split at h
  all_goals cases h
  all_goals first | exact ok400 | exact ok500

theorem totpGenerate_status (O : HashOracle) (m : Method) (b : Body) (now : Int) : okStatus (totpGenerate O m b now).status := by
  cases b
  case otp r => exact ok_ite ok405 (ok_ite ok400 (ok_recover _ _))
  all_goals exact ok_ite ok405 ok400

theorem totpValidate_status (O : HashOracle) (m : Method) (b : Body) (now : Int) : okStatus (totpValidate O m b now).status := by
  cases b
  case otp r =>
    refine ok_ite ok405 (ok_ite ok400 (ok_ite ok400 ?_))
    extract_lets t
    split <;> first | exact ok200 _ | exact ok500
  all_goals exact ok_ite ok405 ok400

theorem hotpGenerate_status (O : HashOracle) (m : Method) (b : Body) : okStatus (hotpGenerate O m b).status := by
  cases b
  case otp r => exact ok_ite ok405 (ok_ite ok400 (ok_recover _ _))
  all_goals exact ok_ite ok405 ok400

theorem hotpValidate_status (O : HashOracle) (m : Method) (b : Body) : okStatus (hotpValidate O m b).status := by
  cases b
  case otp r =>
    refine ok_ite ok405 (ok_ite ok400 (ok_ite ok400 ?_))
    split <;> first | exact ok200 _ | exact ok500
  all_goals exact ok_ite ok405 ok400

theorem otpURL_status (m : Method) (b : Body) : okStatus (otpURL m b).status := by
  cases b
  case url r => exact ok_ite ok405 (ok_ite ok400 (ok_ite (ok_recover _ _) (ok_ite (ok_recover _ _) ok400)))
  all_goals exact ok_ite ok405 ok400

theorem suiteConfigH_status (m : Method) (b : Body) : okStatus (suiteConfigH m b).status := by
  cases b
  case suiteCfg raw => exact ok_ite ok405 (ok_ite ok400 (ok_ite ok400 (ok200 _)))
  all_goals exact ok_ite ok405 ok400

theorem randomSecretH_status (m : Method) (a : Bytes) : okStatus (randomSecretH m a).status :=
  ok_ite ok405 (ok_ite ok500 (ok200 _))
theorem listSuites_status (m : Method) : okStatus (listSuites m).status := ok_ite ok405 (ok200 _)
theorem home_status (m : Method) : okStatus (home m).status := ok_ite ok405 (ok200 _)

theorem ocraGenerate_status (O : HashOracle) (m : Method) (b : Body) : okStatus (ocraGenerate O m b).status := by
  unfold ocraGenerate
  refine ok_ite ok405 ?_
  repeat' split
  -- the leaves in the order of the text: the two refusals handed up, the library's answer, the 400s
  · exact ocraValidateReq_status ‹_›
  · exact ocraSuite_status ‹_›
  · exact ok_recover _ _
  all_goals exact ok400

theorem ocraValidate_status (O : HashOracle) (m : Method) (b : Body) : okStatus (ocraValidate O m b).status := by
  unfold ocraValidate
  refine ok_ite ok405 ?_
  repeat' split
  · exact ocraValidateReq_status ‹_›
  · exact ocraSuite_status ‹_›
  · exact ok200 _
  · exact ok200 _
  · exact ok500
  all_goals exact ok400

/-- C19, totality: whatever the method, path, decoded body (or decode failure), query argument and clock, the
handler returns a response whose status is one of 200, 302, 400, 404, 405, 500 (a handler panic is mapped to
500 by the Recovery middleware – not excluded) -/
theorem C19_total (O : HashOracle) (m : Method) (path : Bytes) (b : Body) (alg : Bytes) (now : Int) :
    okStatus (handle O m path b alg now).status := by
  unfold handle
  cases route path
  all_goals simp only
  · exact totpGenerate_status O m b now
  · exact totpValidate_status O m b now
  · exact hotpGenerate_status O m b
  · exact hotpValidate_status O m b
  · exact ocraGenerate_status O m b
  · exact ocraValidate_status O m b
  · exact listSuites_status m
  · exact suiteConfigH_status m b
  · exact otpURL_status m b
  · exact randomSecretH_status m alg
  · exact home_status m
  all_goals simp [okStatus, err]

/-- C19, statelessness: the server answers request by request; the answer to a request does not depend on the
requests before or after it -/
theorem C19_stateless (O : HashOracle) (pre post : List (Method × Bytes × Body × Bytes × Int)) (x : Method × Bytes × Body × Bytes × Int) :
    (serve O (pre ++ [x] ++ post))[pre.length]? = some (handle O x.1 x.2.1 x.2.2.1 x.2.2.2.1 x.2.2.2.2) := by
  unfold serve
  simp

/-- C19, bounded work: a skew above 10 is answered (valid = false) without entering the window loop, whatever
its size; below that the loop has at most 21 iterations (C04_work) -/
theorem C19_skew_bounded (O : HashOracle) (r : OtpReq) (now : Int) (hb : blank r.secret = false) (hc : blank r.code = false)
    (h : 10 < r.skew) :
    totpValidate O .post (.otp r) now = ⟨200, .valid false⟩ ∧ hotpValidate O .post (.otp r) = ⟨200, .valid false⟩ := by
  constructor
  · simp only [totpValidate, hb, hc, ne_eq, not_true_eq_false, Bool.false_eq_true, if_false]
    rw [Props.C04.C04_skew_refused O _ _ _ _ (by simpa [resolveTOTP] using h)]
  · simp only [hotpValidate, hb, hc, ne_eq, not_true_eq_false, Bool.false_eq_true, if_false]
    rw [Props.C03.C03_skew_refused O _ _ _ _ (by simpa [resolveHOTP] using h)]

/-- C19, status discipline: wrong method ⇒ 405, undecodable body ⇒ 400, unknown path ⇒ 404 -/
theorem C19_status (O : HashOracle) (now : Int) (alg : Bytes) :
    (totpGenerate O .get .undecodable now).status = 405 ∧ (hotpValidate O .other .undecodable).status = 405 ∧
    (totpGenerate O .post .undecodable now).status = 400 ∧ (ocraGenerate O .post .undecodable).status = 400 ∧
    (otpURL .post .undecodable).status = 400 ∧ (suiteConfigH .post .undecodable).status = 400 ∧
    (handle O .post [47, 110, 111, 112, 101] .undecodable alg now).status = 404 :=
  ⟨rfl, rfl, rfl, rfl, rfl, rfl, rfl⟩

end OtpVerif.Props.C19

#print axioms OtpVerif.Props.C19.C19_total
#print axioms OtpVerif.Props.C19.C19_stateless
#print axioms OtpVerif.Props.C19.C19_skew_bounded
#print axioms OtpVerif.Props.C19.C19_status

/-
C10 — no public operation panics; bad arguments are reported as errors.
(a) the models of the exported operations never return `panic`, for every argument in the property's domain
    (the models write every Go operation that can panic through a checked primitive, so this has content);
(b) for every potentially panicking instruction that go/ssa finds in package otp (native and js/wasm: non-constant
    index, slice bound, integer divisor, unchecked type assertion, make with non-constant length, explicit panic)
    either its in-bounds / non-zero condition — regenerated from the dominating branch conditions, type facts,
    loop-variable monotonicity and, for internal helpers, what holds at every call site — is proved by omega
    (`Gen/PanicVC.lean`), or it is a type assertion on what a pool hands out, where the extractor checked the pool's type
    (`poolTypedAssert`), or its (function, kind) is one of the reviewed entries of `Model/Justified.lean`, whose safety rests on a
    semantic fact recorded there.  A new unguarded instruction, or a removed guard, breaks
    `C10_sites`; re-arranging code whose guards still imply the bounds does not.
-/
import OtpVerif.Gen.Sites
import OtpVerif.Gen.PanicVC
import OtpVerif.Model.Justified
import OtpVerif.Lemmas.Otp
import OtpVerif.Props.C13
import OtpVerif.Model.Suite
import OtpVerif.Props.C17
import OtpVerif.Model.Url

namespace OtpVerif.Props.C10
open OtpVerif OtpVerif.Model OtpVerif.Lemmas

/-- a type assertion on what `sync.Pool.Get` returns, where the extractor checked that the pool's `New` and every `Put`
use exactly the asserted type -/
def poolTypedAssert (s : Nat × List Nat × List Nat × List Nat × List (List Nat)) : Bool :=
  s.2.2.1 == [116,121,112,101,97,115,115,101,114,116,40,112,111,111,108,45,116,121,112,101,100,41]   -- "typeassert(pool-typed)"

/-- (b) every potential panic site of the code is proved in bounds, is a pool-typed assertion, or rests on a reviewed semantic fact -/
theorem C10_sites : Gen.panicSites.all (fun s =>
    Gen.PanicVC.proved.any (fun p => p.site == s) || poolTypedAssert s || Model.justifiedPanicKinds.contains (s.2.1, s.2.2.1)) = true := by
  decide +kernel

-- the proved conditions are real statements: e.g. the first one
example : (Gen.PanicVC.proved.head?.map (·.cond)).isSome = true := by decide

/-- (a) HOTP: generation and validation return normally for every secret text, counter and parameter set
(all uint8 digits / hashes, any skew) -/
theorem C10_hotp (O : HashOracle) (s code : Bytes) (c : Nat) (p : Option Param) :
    generateHOTP O s c p ≠ .panic ∧ validateHOTP O s code c p ≠ .panic :=
  ⟨generateHOTP_no_panic O s c p, IsVerdict.ne_panic (Props.C13.C13_hotp O s code c p)⟩

/-- (a) TOTP: for every instant (negative and huge seconds included) and every `uint` period (0 = 30 s) -/
theorem C10_totp (O : HashOracle) (s code : Bytes) (sec : Int) (p : Option Param) (hP : (resolveTOTP p).period < 2 ^ 64) :
    generateTOTP O s sec p ≠ .panic ∧ validateTOTP O s code sec p ≠ .panic := by
  refine ⟨?_, IsVerdict.ne_panic (Props.C13.C13_totp O s code sec p hP)⟩
  rw [generateTOTP_eq O s sec p (effPeriod_lt hP)]
  exact generateHOTP_no_panic O s _ _

/-- (a) OCRA: for every suite configuration (digits −∞..∞, any hash byte, any enum values) and input -/
theorem C10_ocra (O : HashOracle) (s code : Bytes) (cfg : SuiteConfig) (i : OCRAInput) :
    generateOCRA O s cfg i ≠ .panic ∧ validateOCRA O s code cfg i ≠ .panic := by
  refine ⟨?_, IsVerdict.ne_panic (Props.C06.C06_total O s code cfg i)⟩
  unfold generateOCRA
  split
  · exact Props.C06.deriveRFC6287_no_panic O _ cfg i
  · nofun
  · exact absurd ‹_› (decodeSecret_no_panic s)

/-- (a) secret decoding and suite construction: total on all byte strings / configurations -/
theorem C10_decode_suite (s : Bytes) (cfg : SuiteConfig) :
    decodeSecret s ≠ .panic ∧ parseRawSuite s ≠ .panic ∧ newRawSuite s ≠ .panic ∧ newSuite cfg ≠ .panic := by
  have hp : parseRawSuite s ≠ .panic := by
    unfold parseRawSuite
    dsimp only
    repeat' split
    all_goals nofun
  refine ⟨decodeSecret_no_panic s, hp, ?_, ?_⟩
  · unfold newRawSuite
    cases registryLookup s with
    | none => exact hp
    | some c =>
      simp only
      cases suiteValidate { c with raw := s } <;> nofun
  · unfold newSuite; split <;> nofun

/-- (a) helpers: total on all strings; `LeftPadHex` for every non-negative width -/
theorem C10_helpers (s a b c d e : Bytes) (w : Nat) :
    parseDecimalToBE8 s ≠ .panic ∧ parseHexTimestamp s ≠ .panic ∧ parseDecimalChallenge s ≠ .panic ∧
    hexInputToOCRA a b c d e ≠ .panic ∧ leftPadHex s w ≠ .panic := by
  refine ⟨?_, ?_, ?_, ?_, ?_⟩
  · unfold parseDecimalToBE8; split <;> nofun
  · unfold parseHexTimestamp; simp only; split <;> nofun
  · unfold parseDecimalChallenge; split
    · nofun
    · simp only; split <;> nofun
  · unfold hexInputToOCRA; split <;> nofun
  · rw [Props.C17.C17_leftpad]; nofun

/-- (a) random secrets: total for every algorithm byte -/
theorem C10_random (a : Nat) (st : Bytes) : (randomSecret a st).1 ≠ .panic := by
  unfold randomSecret
  split
  · nofun
  · simp only; split <;> nofun

/-- the refusal tests of the URL functions: neither answer of an `if` is a panic, whatever the test and however large
the answers (`split` would simplify the whole goal) -/
theorem ite_ne_panic {α} {c : Prop} [Decidable c] {a b : Out α} (ha : a ≠ .panic) (hb : b ≠ .panic) :
    (if c then a else b) ≠ .panic := by
  split <;> assumption

theorem generateOTPURL_no_panic (kind : Bytes) (p : URLParam) (k v : Bytes) : generateOTPURL kind p k v ≠ .panic :=
  ite_ne_panic nofun (ite_ne_panic nofun (ite_ne_panic nofun nofun))

open OtpVerif.Std.Url in
/-- (a) provisioning URLs: building and parsing return normally for every field value and every URL value of the
modelled shape (the `net/url` model itself is total: `urlParse` answers ok / err / unsupported) -/
theorem C10_url (p : URLParam) (u : URL) :
    generateTOTPURL p ≠ .panic ∧ generateHOTPURL p ≠ .panic ∧ parseOTPAuthURL u ≠ .panic := by
  refine ⟨generateOTPURL_no_panic _ p _ _, generateOTPURL_no_panic _ p _ _, ite_ne_panic nofun (ite_ne_panic nofun ?_)⟩
  dsimp only
  split
  · nofun
  · split <;> nofun

end OtpVerif.Props.C10

#print axioms OtpVerif.Props.C10.C10_sites
#print axioms OtpVerif.Props.C10.C10_hotp
#print axioms OtpVerif.Props.C10.C10_totp
#print axioms OtpVerif.Props.C10.C10_ocra
#print axioms OtpVerif.Props.C10.C10_decode_suite
#print axioms OtpVerif.Props.C10.C10_helpers
#print axioms OtpVerif.Props.C10.C10_random
#print axioms OtpVerif.Props.C10.C10_url

/-
The pool protocol as a predicate on the regenerated operation list of a function (Gen.poolSites), and its link to
the abstract pool machine of `Model/Pool.lean`: for an accepted operation list the machine has a run of as many steps,
from any world in which the thread holds nothing to one in which it again holds nothing.  (The run the proof builds takes
the step each operation names; `Runs` itself does not tie a step to its operation or thread.)
-/
import OtpVerif.Model.Pool

namespace OtpVerif.Model.PoolProto
open OtpVerif.Model

/-- micro-operations of the abstract machine -/
inductive MOp | get | write | read | put
  deriving DecidableEq, Repr

abbrev POp := Nat × List Nat

/-- what an extracted operation does to the buffer (re-slicing has no memory effect; a deferred Put runs last) -/
def absOp (o : POp) : Option MOp :=
  match o.1 with
  | 0 => some .get
  | 1 => some .put
  | 3 => some .write | 5 => some .write | 6 => some .write | 8 => some .write
  | 7 => some .read
  | _ => none

def absProg (ops : List POp) : List MOp :=
  ops.filterMap absOp ++ (if ops.any (·.1 == 2) then [.put] else [])

def body : List MOp → Bool
  | [.put] => true
  | .write :: r => body r
  | .read :: r => body r
  | _ => false

/-- `get`, then only writes and reads, then exactly one `put` -/
def wellBracketed : List MOp → Bool
  | .get :: r => body r
  | _ => false

/-- the first access to the buffer is a write (nothing left by an earlier holder is ever read) -/
def writesFirst : List MOp → Bool
  | .get :: .write :: _ => true
  | .get :: [.put] => true
  | _ => false

/-- the whole check on an extracted operation list -/
def protocolOk (ops : List POp) : Bool :=
  let gets := ops.filter (·.1 == 0)
  let puts := ops.filter (fun o => o.1 == 1 || o.1 == 2)
  (match gets, puts with | [g], [p] => g.2 == p.2 | _, _ => false) &&      -- one Get, one Put, same pool
  ops.all (·.1 != 9) &&                                                      -- never handed to code that may keep it
  wellBracketed (absProg ops) && writesFirst (absProg ops)

/-- run a program of thread `i` on the machine -/
inductive Runs (i : Nat) : List MOp → Pool.World → Pool.World → Prop
  | nil (w) : Runs i [] w w
  | cons {op ops w w' w''} : Pool.Step w w' → Runs i ops w' w'' → Runs i (op :: ops) w w''

theorem body_runs (i : Nat) : ∀ (p : List MOp), body p = true → ∀ (w : Pool.World) (a : Nat),
    (w.threads i).held = some a → ∃ w', Runs i p w w' ∧ (w'.threads i).held = none
  | [.put], _, w, a, hh => ⟨_, .cons (.put w i a hh) (.nil _), congrArg (·.held) Pool.upd_self⟩
  | .write :: r, h, w, a, hh =>
    have ⟨w', hr, hn⟩ := body_runs i r h _ a ((Pool.upd_same (·.held) (by rfl) i).trans hh)
    ⟨w', .cons (.write w i a [] hh) hr, hn⟩
  | .read :: r, h, w, a, hh =>
    have ⟨w', hr, hn⟩ := body_runs i r h _ a ((Pool.upd_same (·.held) (by rfl) i).trans hh)
    ⟨w', .cons (.read w i a hh) hr, hn⟩

theorem wellBracketed_runs (i : Nat) (p : List MOp) (h : wellBracketed p = true) (w : Pool.World)
    (hn : (w.threads i).held = none) : ∃ w', Runs i p w w' ∧ (w'.threads i).held = none :=
  match p, h with
  | .get :: r, h =>
    have ⟨w', hr, hn'⟩ := body_runs i r h _ w.next (congrArg (·.held) Pool.upd_self)
    ⟨w', .cons (.getFresh w i hn) hr, hn'⟩

theorem runs_reach {m : Nat → Pool.Bytes} (i : Nat) : ∀ (p : List MOp) (w w' : Pool.World), Pool.Reach m w → Runs i p w w' → Pool.Reach m w' := by
  intro p w w' hr hrun
  induction hrun with
  | nil _ => exact hr
  | cons hs _ ih => exact ih (Pool.Reach.step hr hs)

end OtpVerif.Model.PoolProto

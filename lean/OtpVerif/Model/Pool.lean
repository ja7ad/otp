/-
Pool / ownership protocol (C11): any number of threads, any interleaving, garbage collections that empty
the pool at arbitrary points, and an adversary – every thread may write arbitrary bytes into a buffer it
holds (an adversary is simply a thread that gets, scribbles and puts).  Buffers are addresses; `get` takes
any pooled address or a fresh one, `put` returns the held address.
Invariant: no address is held by two threads, a held address is not in the pool, the pool has no
duplicates; hence what a thread's callee reads from its buffer is what that thread itself last wrote,
whatever everybody else did in between.
(sync.Pool's real implementation – per-P caches, victim cache – and the Go memory model are assumed to
implement this abstraction; the race-detector stress run supports that, it is not part of the proof.)
-/
import OtpVerif.Basic

namespace OtpVerif.Model.Pool

abbrev Bytes := List UInt8

structure Thread where
  held    : Option Nat := none
  wrote   : Option Bytes := none      -- what this thread itself last wrote into the held buffer
  seen    : Option Bytes := none      -- what the callee (HMAC) read
  deriving Inhabited

structure World where
  mem     : Nat → Bytes
  pool    : List Nat
  threads : Nat → Thread
  next    : Nat

def upd (f : Nat → Thread) (i : Nat) (t : Thread) : Nat → Thread := fun j => if j = i then t else f j

inductive Step : World → World → Prop
  | getPooled (w) (i a l1 l2) : (w.threads i).held = none → w.pool = l1 ++ a :: l2 →
      Step w ⟨w.mem, l1 ++ l2, upd w.threads i { held := some a }, w.next⟩
  | getFresh (w) (i) : (w.threads i).held = none →
      Step w ⟨w.mem, w.pool, upd w.threads i { held := some w.next }, w.next + 1⟩
  | write (w) (i a bs) : (w.threads i).held = some a →
      Step w ⟨fun x => if x = a then bs else w.mem x, w.pool, upd w.threads i { (w.threads i) with wrote := some bs }, w.next⟩
  | read (w) (i a) : (w.threads i).held = some a →
      Step w ⟨w.mem, w.pool, upd w.threads i { (w.threads i) with seen := some (w.mem a) }, w.next⟩
  | put (w) (i a) : (w.threads i).held = some a →
      Step w ⟨w.mem, a :: w.pool, upd w.threads i { held := none }, w.next⟩
  | gc (w) : Step w ⟨w.mem, [], w.threads, w.next⟩

structure PInv (w : World) : Prop where
  excl   : ∀ i j a, i ≠ j → (w.threads i).held = some a → (w.threads j).held ≠ some a
  notIn  : ∀ i a, (w.threads i).held = some a → a ∉ w.pool
  nodup  : w.pool.Nodup
  fresh1 : ∀ a ∈ w.pool, a < w.next
  fresh2 : ∀ i a, (w.threads i).held = some a → a < w.next
  coh    : ∀ i a bs, (w.threads i).held = some a → (w.threads i).wrote = some bs → w.mem a = bs

def init (m : Nat → Bytes) : World := ⟨m, [], fun _ => {}, 0⟩

theorem inv_init (m) : PInv (init m) := by
  constructor <;> intros <;> simp_all [init]

theorem upd_self {f : Nat → Thread} {i : Nat} {t : Thread} : upd f i t i = t := if_pos rfl

theorem held_upd {f : Nat → Thread} {i x b : Nat} {t : Thread} :
    (upd f i t x).held = some b ↔ (x = i ∧ t.held = some b) ∨ (x ≠ i ∧ (f x).held = some b) := by
  unfold upd; by_cases h : x = i <;> simp [h]

theorem upd_same {β} (p : Thread → β) {f : Nat → Thread} {i : Nat} {t : Thread} (ht : p t = p (f i)) (x : Nat) :
    p (upd f i t x) = p (f x) := by
  unfold upd; split
  · next e => rw [e, ht]
  · rfl

/-- steps that leave every thread's `held` alone and only shrink the pool (`write`, `read`, `gc`): only `coh` is at stake -/
theorem PInv.frame {w w' : World} (h : PInv w) (hheld : ∀ x, (w'.threads x).held = (w.threads x).held)
    (hpool : w'.pool.Sublist w.pool) (hnext : w'.next = w.next)
    (hcoh : ∀ x a bs, (w.threads x).held = some a → (w'.threads x).wrote = some bs → w'.mem a = bs) : PInv w' where
  excl x y b := by rw [hheld, hheld]; exact h.excl x y b
  notIn x b hx hm := h.notIn x b (hheld x ▸ hx) (hpool.mem hm)
  nodup := hpool.nodup h.nodup
  fresh1 b hb := hnext ▸ h.fresh1 b (hpool.mem hb)
  fresh2 x b hx := hnext ▸ h.fresh2 x b (hheld x ▸ hx)
  coh x b bs hx := hcoh x b bs (hheld x ▸ hx)

/-- thread `i` takes an address nobody holds and that is not (any longer) pooled: `getPooled`, `getFresh` -/
theorem PInv.acquire {w : World} (h : PInv w) (i a : Nat) {pool' : List Nat} {next' : Nat}
    (hfree : ∀ x, (w.threads x).held ≠ some a) (ha : a ∉ pool') (hpool : pool'.Sublist w.pool)
    (hnext : w.next ≤ next') (halt : a < next') :
    PInv ⟨w.mem, pool', upd w.threads i { held := some a }, next'⟩ where
  excl x y b hxy hx hy := by
    rcases held_upd.mp hx with ⟨ex, hx'⟩ | ⟨_, hx'⟩ <;> rcases held_upd.mp hy with ⟨ey, hy'⟩ | ⟨_, hy'⟩
    · exact hxy (ex.trans ey.symm)
    · cases hx'; exact hfree y hy'
    · cases hy'; exact hfree x hx'
    · exact h.excl x y b hxy hx' hy'
  notIn x b hx hm := by
    rcases held_upd.mp hx with ⟨_, hx⟩ | ⟨_, hx⟩
    · cases hx; exact ha hm
    · exact h.notIn x b hx (hpool.mem hm)
  nodup := hpool.nodup h.nodup
  fresh1 b hb := Nat.lt_of_lt_of_le (h.fresh1 b (hpool.mem hb)) hnext
  fresh2 x b hx := by
    rcases held_upd.mp hx with ⟨_, hx⟩ | ⟨_, hx⟩
    · cases hx; exact halt
    · exact Nat.lt_of_lt_of_le (h.fresh2 x b hx) hnext
  coh x b bs hx hw := by
    rcases held_upd.mp hx with ⟨rfl, _⟩ | ⟨hxi, hx⟩
    · simp [upd] at hw
    · simp only [upd, if_neg hxi] at hw; exact h.coh x b bs hx hw

theorem inv_step {w w'} (h : PInv w) (s : Step w w') : PInv w' := by
  cases s with
  | getPooled i a l1 l2 _ hp =>
    -- up to order the pool is `a :: (l1 ++ l2)`, which has no duplicates
    have hnd : (a :: (l1 ++ l2)).Nodup := List.perm_middle.nodup (hp ▸ h.nodup)
    have hin : a ∈ w.pool := hp ▸ List.mem_append_right l1 (List.mem_cons_self ..)
    have hsub : (l1 ++ l2).Sublist w.pool := hp ▸ (List.Sublist.refl l1).append (List.sublist_cons_self a l2)
    exact h.acquire i a (fun x hx => h.notIn x a hx hin) (List.nodup_cons.mp hnd).1 hsub (Nat.le_refl _) (h.fresh1 a hin)
  | getFresh i _ =>
    exact h.acquire i w.next (fun x hx => Nat.lt_irrefl _ (h.fresh2 x _ hx)) (fun hm => Nat.lt_irrefl _ (h.fresh1 _ hm))
      (List.Sublist.refl _) (Nat.le_succ _) (Nat.lt_succ_self _)
  | write i a bs hheld =>
    refine h.frame (upd_same Thread.held rfl) (List.Sublist.refl _) rfl fun x b bs' hx hw => ?_
    show (if b = a then bs else w.mem b) = bs'
    by_cases hxi : x = i
    · subst hxi
      have hb : b = a := Option.some.inj (hx.symm.trans hheld)
      simp [upd] at hw
      rw [if_pos hb]; exact hw
    · simp only [upd, if_neg hxi] at hw
      rw [if_neg fun e : b = a => h.excl x i b hxi hx (e ▸ hheld)]
      exact h.coh x b bs' hx hw
  | read i a hheld =>
    exact h.frame (upd_same Thread.held rfl) (List.Sublist.refl _) rfl fun x b bs' hx hw =>
      h.coh x b bs' hx ((upd_same Thread.wrote (by rfl) x).symm.trans hw)
  | gc => exact h.frame (fun _ => rfl) (List.nil_sublist _) rfl h.coh
  | put i a hheld =>
    have hu {x b} (hx : (upd w.threads i { held := none } x).held = some b) : x ≠ i ∧ (w.threads x).held = some b := by
      rcases held_upd.mp hx with ⟨_, hx⟩ | hx
      · cases hx
      · exact hx
    exact {
      excl := fun x y b hxy hx hy => h.excl x y b hxy (hu hx).2 (hu hy).2
      notIn := fun x b hx hm => (List.mem_cons.mp hm).elim
        (fun e => h.excl x i b (hu hx).1 (hu hx).2 (e ▸ hheld)) (h.notIn x b (hu hx).2)
      nodup := List.nodup_cons.mpr ⟨h.notIn i a hheld, h.nodup⟩
      fresh1 := fun b hb => (List.mem_cons.mp hb).elim (fun e => e ▸ h.fresh2 i a hheld) (h.fresh1 b)
      fresh2 := fun x b hx => h.fresh2 x b (hu hx).2
      coh := fun x b bs hx hw => h.coh x b bs (hu hx).2 (by simpa [upd, (hu hx).1] using hw) }

inductive Reach (m : Nat → Bytes) : World → Prop
  | init : Reach m (init m)
  | step {w w'} : Reach m w → Step w w' → Reach m w'

theorem inv_reach {m w} (r : Reach m w) : PInv w := by
  induction r with
  | init => exact inv_init m
  | step _ s ih => exact inv_step ih s

/-- what the callee reads is what this thread itself wrote, whatever everybody else did in between -/
theorem read_own_write {m w} (r : Reach m w) (i a bs) (hh : (w.threads i).held = some a)
    (hw : (w.threads i).wrote = some bs) : w.mem a = bs :=
  (inv_reach r).coh i a bs hh hw

end OtpVerif.Model.Pool

-- GENERATED by /verif/harness/cmd/ssafacts (the conditions: vc.go; this text: main.go), selected by /verif/tools/vcfilter.py.
-- Do not edit.
-- One in-bounds / non-zero-divisor condition per potentially panicking instruction, from the dominating branch
-- conditions, type facts and loop-variable monotonicity found in go/ssa; every condition that is written out is proved by omega.
-- Names: vc_<build: 0 native, 1 js/wasm>_<function>_<kind>_<ordinal within function and kind>_<a|b>; a: from the function's
-- own guards; b: at every call site of an internal function, a conjunction over the call sites.  A condition is written out
-- once, under the name of the first site that needs it (a conjunct: `.._b<j>`, j the call site); a later site or call site
-- with the same condition refers to that theorem: the site's own theorem is stated as `type_of%` the first and proved by it, a
-- conjunction as `type_of% .. ∧ type_of% ..`.  `proved` gives every kept site (build, function, kind, expression, guards, as
-- bytes) its condition (`_`: the statement of the theorem named) and the proof.  Only sites whose candidate Lean proved are
-- kept (hence the gaps in the VC numbers); the filter reads the one-line layout and the trailing `-- VC n.x` / `-- VCENTRY n.x`.
namespace OtpVerif.Gen.PanicVC

/-- a panic site together with the condition under which it cannot panic, and the proof of that condition -/
structure Proved where
  site : Nat × List Nat × List Nat × List Nat × List (List Nat)
  cond : Prop
  proof : cond

theorem vc_0_otp_DecodeSecret_index_1_a : ∀ (v1 v2 l3 : Int), ((v1 = 0) ∨ (v1 = (v2 + 1))) → (-9223372036854775808 ≤ v1) → (-9223372036854775808 ≤ v2) → (0 ≤ l3) → (0 ≤ v1) → (v1 < 9223372036854775808) → (v1 < l3) → (v2 < 9223372036854775808) → (0 ≤ v1 ∧ v1 < l3) := by intros; omega -- VC 0.a ¦ native ¦ otp.DecodeSecret ¦ TrimSpace(secret)[i]
theorem vc_0_otp_ParseDecimal64BigEndian_index_1_a : ∀ (v1 v2 : Int), ((v1 = 7) ∨ (v1 = (v2 - 1))) → (-9223372036854775808 ≤ v1) → (-9223372036854775808 ≤ v2) → (0 ≤ 0 ∧ 0 ≤ 8 ∧ 8 ≤ 8) → (v1 < 9223372036854775808) → (v1 ≤ 7) → (v1 ≥ 0) → (v2 < 9223372036854775808) → (0 ≤ v1 ∧ v1 < (8 - 0)) := by intros; omega -- VC 2.a ¦ native ¦ otp.ParseDecimal64BigEndian ¦ makeslice[:][i]
theorem vc_0_otp_ParseDecimalToBigEndian8_index_1_a : type_of% vc_0_otp_ParseDecimal64BigEndian_index_1_a := vc_0_otp_ParseDecimal64BigEndian_index_1_a -- VC 3.a ¦ native ¦ otp.ParseDecimalToBigEndian8 ¦ makeslice[:][i]
theorem vc_0_otp_ParseOTPAuthURL_index_1_a : ∀ (l1 : Int), (0 ≤ l1) → (¬(l1 ≠ 2)) → (0 ≤ 0 ∧ 0 < l1) := by intros; omega -- VC 4.a ¦ native ¦ otp.ParseOTPAuthURL ¦ SplitN(TrimPrefix(*u.Path,"/"),":",2)[0]
theorem vc_0_otp_ParseOTPAuthURL_index_2_a : ∀ (l1 : Int), (0 ≤ 0 ∧ 0 < l1) → (0 ≤ l1) → (¬(l1 ≠ 2)) → (0 ≤ 1 ∧ 1 < l1) := by intros; omega -- VC 5.a ¦ native ¦ otp.ParseOTPAuthURL ¦ SplitN(TrimPrefix(*u.Path,"/"),":",2)[1]
theorem vc_0_otp_RandomSecret_makeslice_1_a : ∀ (v1 : Int), ((v1 = 20) ∨ (v1 = 32) ∨ (v1 = 64)) → (-9223372036854775808 ≤ v1) → (20 ≤ v1) → (v1 < 9223372036854775808) → (v1 ≤ 64) → (0 ≤ v1) := by intros; omega -- VC 6.a ¦ native ¦ otp.RandomSecret ¦ make(size)
theorem vc_0_otp_To8ByteBigEndian_index_1_a : type_of% vc_0_otp_ParseDecimal64BigEndian_index_1_a := vc_0_otp_ParseDecimal64BigEndian_index_1_a -- VC 7.a ¦ native ¦ otp.To8ByteBigEndian ¦ makeslice[:][i]
theorem vc_0_otp_deriveRFC4226_index_1_a : ∀ (v1 v2 : Int), (-9223372036854775808 ≤ v2) → (0 ≤ v1) → (v1 < 256) → (v2 < 9223372036854775808) → (¬(v1 < 0)) → (¬(v1 ≥ 3)) → (¬(v2 < 1)) → (¬(v2 ≥ 11)) → (0 ≤ v1 ∧ v1 < 3) := by intros; omega -- VC 8.a ¦ native ¦ otp.deriveRFC4226 ¦ hmacPools[algo]
theorem vc_0_otp_deriveRFC4226_index_2_a : ∀ (v1 v2 : Int), (-9223372036854775808 ≤ v1) → (0 ≤ 0 ∧ 0 ≤ 8 ∧ 8 ≤ 8) → (0 ≤ v2) → (0 ≤ v2 ∧ v2 < 3) → (v1 < 9223372036854775808) → (v2 < 256) → (¬(v1 < 1)) → (¬(v1 ≥ 11)) → (¬(v2 < 0)) → (¬(v2 ≥ 3)) → (0 ≤ v1 ∧ v1 < 11) := by intros; omega -- VC 9.a ¦ native ¦ otp.deriveRFC4226 ¦ mod10[digits]
theorem vc_0_otp_deriveRFC6287_slice_1_a : ∀ (l1 c2 : Int), (0 ≤ l1) → (l1 ≤ c2) → (0 ≤ 0 ∧ 0 ≤ 0 ∧ 0 ≤ c2) := by intros; omega -- VC 10.a ¦ native ¦ otp.deriveRFC6287 ¦ *Get(rfc6287BufPool)[:0]
theorem vc_0_otp_formatDecimal_index_1_a : ∀ (v1 v2 v3 : Int), ((v1 = (v2 - 1)) ∨ (v1 = (v3 - 1))) → (-9223372036854775808 ≤ v1) → (-9223372036854775808 ≤ v2) → (-9223372036854775808 ≤ v3) → (v1 < 9223372036854775808) → (v1 ≤ (v2 - 1)) → (v1 ≥ 0) → (v2 < 9223372036854775808) → (v3 < 9223372036854775808) → (0 ≤ v1 ∧ v1 < v2) := by intros; omega -- VC 14.a ¦ native ¦ otp.formatDecimal ¦ *ssa.MakeSlice[i]
theorem vc_0_otp_longDigit_makeslice_1_b1 : ∀ (v1 v2 v3 v4 v5 : Int), (-9223372036854775808 ≤ v1) → (-9223372036854775808 ≤ v2) → (-9223372036854775808 ≤ v4) → (0 ≤ v3) → (0 ≤ v5) → (v1 < 9223372036854775808) → (v1 = v2) → (v2 < 9223372036854775808) → (v2 = v4) → (v3 < 256) → (v3 = v5) → (v4 < 9223372036854775808) → (v5 < 256) → (¬(v2 < 1)) → (¬(v2 ≤ 8)) → (¬(v2 ≥ 11)) → (¬(v3 < 0)) → (¬(v3 ≥ 3)) → (0 ≤ v1) := by intros; omega -- VC 16.b ¦ call site 1
theorem vc_0_otp_longDigit_makeslice_1_b : type_of% vc_0_otp_longDigit_makeslice_1_b1 ∧ type_of% vc_0_otp_longDigit_makeslice_1_b1 ∧ type_of% vc_0_otp_longDigit_makeslice_1_b1 := ⟨vc_0_otp_longDigit_makeslice_1_b1, vc_0_otp_longDigit_makeslice_1_b1, vc_0_otp_longDigit_makeslice_1_b1⟩ -- VC 16.b ¦ native ¦ otp.longDigit ¦ make(digits) (at its 3 call sites)
theorem vc_0_otp_longDigit_index_1_a : type_of% vc_0_otp_formatDecimal_index_1_a := vc_0_otp_formatDecimal_index_1_a -- VC 17.a ¦ native ¦ otp.longDigit ¦ *ssa.MakeSlice[i]
theorem vc_0_otp_padBytes_slice_1_b1 : ∀ (l1 c2 v3 l4 c5 : Int), (-9223372036854775808 ≤ v3) → (0 ≤ l1) → (0 ≤ l4) → (c2 = c5) → (l1 = l4) → (l1 ≤ c2) → (l1 ≥ v3) → (l4 ≤ c5) → (v3 < 9223372036854775808) → (v3 = 8) → (0 ≤ 0 ∧ 0 ≤ v3 ∧ v3 ≤ c2) := by intros; omega -- VC 18.b ¦ call site 1
theorem vc_0_otp_padBytes_slice_1_b3 : ∀ (l1 c2 v3 l4 c5 : Int), (-9223372036854775808 ≤ v3) → (0 ≤ l1) → (0 ≤ l4) → (c2 = c5) → (l1 = l4) → (l1 ≤ c2) → (l1 ≥ v3) → (l4 ≤ c5) → (v3 < 9223372036854775808) → (v3 = 128) → (0 ≤ 0 ∧ 0 ≤ v3 ∧ v3 ≤ c2) := by intros; omega -- VC 18.b ¦ call site 3
theorem vc_0_otp_padBytes_slice_1_b : type_of% vc_0_otp_padBytes_slice_1_b1 ∧ type_of% vc_0_otp_padBytes_slice_1_b1 ∧ type_of% vc_0_otp_padBytes_slice_1_b3 ∧ type_of% vc_0_otp_padBytes_slice_1_b3 ∧ type_of% vc_0_otp_padBytes_slice_1_b3 ∧ type_of% vc_0_otp_padBytes_slice_1_b3 ∧ type_of% vc_0_otp_padBytes_slice_1_b1 ∧ type_of% vc_0_otp_padBytes_slice_1_b1 := ⟨vc_0_otp_padBytes_slice_1_b1, vc_0_otp_padBytes_slice_1_b1, vc_0_otp_padBytes_slice_1_b3, vc_0_otp_padBytes_slice_1_b3, vc_0_otp_padBytes_slice_1_b3, vc_0_otp_padBytes_slice_1_b3, vc_0_otp_padBytes_slice_1_b1, vc_0_otp_padBytes_slice_1_b1⟩ -- VC 18.b ¦ native ¦ otp.padBytes ¦ input[:length] (at its 8 call sites)
theorem vc_0_otp_padBytes_makeslice_1_a : ∀ (v1 l2 : Int), (-9223372036854775808 ≤ v1) → (0 ≤ l2) → (v1 < 9223372036854775808) → (¬(l2 ≥ v1)) → (0 ≤ v1) := by intros; omega -- VC 19.a ¦ native ¦ otp.padBytes ¦ make(length)
theorem vc_0_otp_parseCryptoFunction_index_1_a : ∀ (l1 l2 l3 : Int), (0 ≤ 5 ∧ 5 ≤ l3 ∧ l3 ≤ l3) → (0 ≤ l1) → (0 ≤ l2) → (0 ≤ l3) → (8 ≤ l2) → (¬(l1 ≠ 2)) → (0 ≤ 0 ∧ 0 < l1) := by intros; omega -- VC 21.a ¦ native ¦ otp.parseCryptoFunction ¦ Split(crypto[:],"-")[0]
theorem vc_0_otp_parseCryptoFunction_index_2_a : ∀ (l1 l2 l3 : Int), (0 ≤ 0 ∧ 0 < l1) → (0 ≤ 5 ∧ 5 ≤ l3 ∧ l3 ≤ l3) → (0 ≤ l1) → (0 ≤ l2) → (0 ≤ l3) → (8 ≤ l2) → (¬(l1 ≠ 2)) → (0 ≤ 1 ∧ 1 < l1) := by intros; omega -- VC 22.a ¦ native ¦ otp.parseCryptoFunction ¦ Split(crypto[:],"-")[1]
theorem vc_0_otp_parseDataInputTokens_index_1_a : ∀ (v1 v2 l3 : Int), ((-1) ≤ v1) → ((v1 + 1) < l3) → ((v1 = (-1)) ∨ (v1 = v2)) → (-9223372036854775808 ≤ v1) → (-9223372036854775808 ≤ v2) → (0 ≤ l3) → (v1 < 9223372036854775808) → (v2 < 9223372036854775808) → (0 ≤ (v1 + 1) ∧ (v1 + 1) < l3) := by intros; omega -- VC 23.a ¦ native ¦ otp.parseDataInputTokens ¦ Split(input,"-")[(rangeindex + 1)]
theorem vc_0_otp_parseDataInputTokens_slice_1_a : ∀ (l1 v2 v3 l4 : Int), ((-1) ≤ v2) → ((v2 + 1) < l4) → ((v2 = (-1)) ∨ (v2 = v3)) → (-9223372036854775808 ≤ v2) → (-9223372036854775808 ≤ v3) → (0 ≤ (v2 + 1) ∧ (v2 + 1) < l4) → (0 ≤ l1) → (0 ≤ l4) → (2 ≤ l1) → (l1 = 4) → (v2 < 9223372036854775808) → (v3 < 9223372036854775808) → (0 ≤ 2 ∧ 2 ≤ l1 ∧ l1 ≤ l1) := by intros; omega -- VC 24.a ¦ native ¦ otp.parseDataInputTokens ¦ ToUpper(*Split(input,"-")[(rangeindex + 1)])[2:]
theorem vc_0_otp_parseDataInputTokens_slice_3_a : ∀ (l1 v2 v3 l4 : Int), ((-1) ≤ v2) → ((v2 + 1) < l4) → ((v2 = (-1)) ∨ (v2 = v3)) → (-9223372036854775808 ≤ v2) → (-9223372036854775808 ≤ v3) → (0 ≤ (v2 + 1) ∧ (v2 + 1) < l4) → (0 ≤ l1) → (0 ≤ l4) → (1 ≤ l1) → (l1 ≠ 1) → (v2 < 9223372036854775808) → (v3 < 9223372036854775808) → (0 ≤ 1 ∧ 1 ≤ l1 ∧ l1 ≤ l1) := by intros; omega -- VC 26.a ¦ native ¦ otp.parseDataInputTokens ¦ ToUpper(*Split(input,"-")[(rangeindex + 1)])[1:]
theorem vc_0_otp_parseRawSuite_index_1_a : type_of% vc_0_otp_DecodeSecret_index_1_a := vc_0_otp_DecodeSecret_index_1_a -- VC 27.a ¦ native ¦ otp.parseRawSuite ¦ raw[i]
theorem vc_0_otp_parseRawSuite_index_2_a : ∀ (l1 v2 v3 l4 : Int), ((v2 = 0) ∨ (v2 = (v3 + 1))) → (-9223372036854775808 ≤ v2) → (-9223372036854775808 ≤ v3) → (0 ≤ l1) → (0 ≤ l4) → (0 ≤ v2) → (v2 < 9223372036854775808) → (v3 < 9223372036854775808) → (¬(l1 ≠ 3)) → (¬(v2 < l4)) → (0 ≤ 1 ∧ 1 < l1) := by intros; omega -- VC 28.a ¦ native ¦ otp.parseRawSuite ¦ Split(raw,":")[1]
theorem vc_0_otp_parseRawSuite_index_3_a : ∀ (l1 v2 v3 l4 : Int), ((v2 = 0) ∨ (v2 = (v3 + 1))) → (-9223372036854775808 ≤ v2) → (-9223372036854775808 ≤ v3) → (0 ≤ 1 ∧ 1 < l1) → (0 ≤ l1) → (0 ≤ l4) → (0 ≤ v2) → (v2 < 9223372036854775808) → (v3 < 9223372036854775808) → (¬(l1 ≠ 3)) → (¬(v2 < l4)) → (0 ≤ 2 ∧ 2 < l1) := by intros; omega -- VC 29.a ¦ native ¦ otp.parseRawSuite ¦ Split(raw,":")[2]
theorem vc_0_otp_parseRawSuite_index_4_a : ∀ (l1 v2 v3 l4 : Int), ((v2 = 0) ∨ (v2 = (v3 + 1))) → (-9223372036854775808 ≤ v2) → (-9223372036854775808 ≤ v3) → (0 ≤ 1 ∧ 1 < l1) → (0 ≤ 2 ∧ 2 < l1) → (0 ≤ l1) → (0 ≤ l4) → (0 ≤ v2) → (v2 < 9223372036854775808) → (v3 < 9223372036854775808) → (¬(l1 ≠ 3)) → (¬(v2 < l4)) → (0 ≤ 0 ∧ 0 < l1) := by intros; omega -- VC 30.a ¦ native ¦ otp.parseRawSuite ¦ Split(raw,":")[0]
theorem vc_0_otp_parseRawSuite_index_5_a : ∀ (l1 v2 v3 l4 : Int), ((v2 = 0) ∨ (v2 = (v3 + 1))) → (-9223372036854775808 ≤ v2) → (-9223372036854775808 ≤ v3) → (0 ≤ 0 ∧ 0 < l1) → (0 ≤ 1 ∧ 1 < l1) → (0 ≤ 2 ∧ 2 < l1) → (0 ≤ l1) → (0 ≤ l4) → (0 ≤ v2) → (v2 < 9223372036854775808) → (v3 < 9223372036854775808) → (¬(l1 ≠ 3)) → (¬(v2 < l4)) → (0 ≤ 0 ∧ 0 < l1) := by intros; omega -- VC 31.a ¦ native ¦ otp.parseRawSuite ¦ Split(raw,":")[0]
theorem vc_0_otp_parseSuiteNumber_index_1_a : ∀ (v1 v2 l3 : Int), ((v1 = 0) ∨ (v1 = (v2 + 1))) → (-9223372036854775808 ≤ v1) → (-9223372036854775808 ≤ v2) → (0 ≤ l3) → (0 ≤ v1) → (v1 < 9223372036854775808) → (v1 < l3) → (v2 < 9223372036854775808) → (¬(l3 = 0)) → (¬(l3 > 3)) → (0 ≤ v1 ∧ v1 < l3) := by intros; omega -- VC 32.a ¦ native ¦ otp.parseSuiteNumber ¦ s[i]
theorem vc_0_otp_parseSuiteNumber_index_2_a : ∀ (v1 v2 l3 v4 v5 : Int), ((v1 = 0) ∨ (v1 = (v2 + 1))) → (-9223372036854775808 ≤ v1) → (-9223372036854775808 ≤ v2) → (0 ≤ l3) → (0 ≤ v1) → (0 ≤ v1 ∧ v1 < l3) → (0 ≤ v4) → (0 ≤ v5) → (v1 < 9223372036854775808) → (v1 < l3) → (v2 < 9223372036854775808) → (v4 < 256) → (v5 < 256) → (¬(l3 = 0)) → (¬(l3 > 3)) → (¬(v4 > 57)) → (¬(v5 < 48)) → (0 ≤ v1 ∧ v1 < l3) := by intros; omega -- VC 33.a ¦ native ¦ otp.parseSuiteNumber ¦ s[i]
theorem vc_0_otp_parseSuiteNumber_index_3_a : ∀ (v1 v2 l3 v4 : Int), ((v1 = 0) ∨ (v1 = (v2 + 1))) → (-9223372036854775808 ≤ v1) → (-9223372036854775808 ≤ v2) → (0 ≤ l3) → (0 ≤ v1) → (0 ≤ v1 ∧ v1 < l3) → (0 ≤ v4) → (v1 < 9223372036854775808) → (v1 < l3) → (v2 < 9223372036854775808) → (v4 < 256) → (¬(l3 = 0)) → (¬(l3 > 3)) → (¬(v4 < 48)) → (0 ≤ v1 ∧ v1 < l3) := by intros; omega -- VC 34.a ¦ native ¦ otp.parseSuiteNumber ¦ s[i]
theorem vc_0_otp_parseTimeGranularity_slice_1_a : ∀ (l1 : Int), (0 ≤ l1) → (¬(l1 < 2)) → (0 ≤ 0 ∧ 0 ≤ (l1 - 1) ∧ (l1 - 1) ≤ l1) := by intros; omega -- VC 35.a ¦ native ¦ otp.parseTimeGranularity ¦ g[:(len(g) - 1)]
theorem vc_0_otp_parseTimeGranularity_index_1_a : ∀ (l1 : Int), (0 ≤ 0 ∧ 0 ≤ (l1 - 1) ∧ (l1 - 1) ≤ l1) → (0 ≤ l1) → (¬(l1 < 2)) → (0 ≤ (l1 - 1) ∧ (l1 - 1) < l1) := by intros; omega -- VC 36.a ¦ native ¦ otp.parseTimeGranularity ¦ g[(len(g) - 1)]
theorem vc_0_otp_shortDigit_index_1_b1 : ∀ (v1 v2 v3 v4 v5 v6 v7 v8 v9 v10 v11 : Int), ((v1 = (v2 - 1)) ∨ (v1 = (v3 - 1))) → ((v4 = v5) ∨ (v4 = (v6 / 10))) → (-9223372036854775808 ≤ v1) → (-9223372036854775808 ≤ v10) → (-9223372036854775808 ≤ v2) → (-9223372036854775808 ≤ v3) → (-9223372036854775808 ≤ v8) → (0 ≤ v11) → (0 ≤ v4) → (0 ≤ v5) → (0 ≤ v6) → (0 ≤ v7) → (0 ≤ v9) → (v1 < 9223372036854775808) → (v1 ≤ (v2 - 1)) → (v1 ≥ 0) → (v10 < 9223372036854775808) → (v11 < 256) → (v2 < 9223372036854775808) → (v2 = v8) → (v3 < 9223372036854775808) → (v4 < 4294967296) → (v4 > 0) → (v5 < 4294967296) → (v5 = v7) → (v6 < 4294967296) → (v7 < 4294967296) → (v8 < 9223372036854775808) → (v8 = v10) → (v8 ≤ 8) → (v9 < 256) → (v9 = v11) → (¬(v8 < 1)) → (¬(v8 ≥ 11)) → (¬(v9 < 0)) → (¬(v9 ≥ 3)) → (0 ≤ v1 ∧ v1 < 8) := by intros; omega -- VC 37.b ¦ call site 1
theorem vc_0_otp_shortDigit_index_1_b : type_of% vc_0_otp_shortDigit_index_1_b1 ∧ type_of% vc_0_otp_shortDigit_index_1_b1 ∧ type_of% vc_0_otp_shortDigit_index_1_b1 := ⟨vc_0_otp_shortDigit_index_1_b1, vc_0_otp_shortDigit_index_1_b1, vc_0_otp_shortDigit_index_1_b1⟩ -- VC 37.b ¦ native ¦ otp.shortDigit ¦ pad[i] (at its 3 call sites)
theorem vc_0_otp_shortDigit_slice_1_b1 : ∀ (v1 v2 v3 v4 v5 v6 v7 v8 v9 v10 v11 v12 v13 : Int), ((v2 = v3 ∧ ¬(v5 > 0)) ∨ (v2 = (v8 - 1)) ∨ (v2 = v3 ∧ ¬(v3 ≥ 0))) → ((v3 = (v1 - 1)) ∨ (v3 = (v4 - 1))) → ((v5 = v6) ∨ (v5 = (v7 / 10))) → (-9223372036854775808 ≤ v1) → (-9223372036854775808 ≤ v10) → (-9223372036854775808 ≤ v12) → (-9223372036854775808 ≤ v2) → (-9223372036854775808 ≤ v3) → (-9223372036854775808 ≤ v4) → (-9223372036854775808 ≤ v8) → (0 ≤ v11) → (0 ≤ v13) → (0 ≤ v5) → (0 ≤ v6) → (0 ≤ v7) → (0 ≤ v9) → (v1 < 9223372036854775808) → (v1 = v10) → (v10 < 9223372036854775808) → (v10 = v12) → (v10 ≤ 8) → (v11 < 256) → (v11 = v13) → (v12 < 9223372036854775808) → (v13 < 256) → (v2 < 9223372036854775808) → (v3 < 9223372036854775808) → (v3 ≤ (v1 - 1)) → (v4 < 9223372036854775808) → (v5 < 4294967296) → (v6 < 4294967296) → (v6 = v9) → (v7 < 4294967296) → (v8 < 9223372036854775808) → (v9 < 4294967296) → (¬(v10 < 1)) → (¬(v10 ≥ 11)) → (¬(v11 < 0)) → (¬(v11 ≥ 3)) → (¬(v2 ≥ 0)) → (0 ≤ 0 ∧ 0 ≤ v1 ∧ v1 ≤ 8) := by intros; omega -- VC 39.b ¦ call site 1
theorem vc_0_otp_shortDigit_slice_1_b : type_of% vc_0_otp_shortDigit_slice_1_b1 ∧ type_of% vc_0_otp_shortDigit_slice_1_b1 ∧ type_of% vc_0_otp_shortDigit_slice_1_b1 := ⟨vc_0_otp_shortDigit_slice_1_b1, vc_0_otp_shortDigit_slice_1_b1, vc_0_otp_shortDigit_slice_1_b1⟩ -- VC 39.b ¦ native ¦ otp.shortDigit ¦ pad[:digits] (at its 3 call sites)
theorem vc_0_otp_truncate_index_1_b1 : ∀ (l1 l2 v3 v4 v5 v6 : Int), (-9223372036854775808 ≤ v3) → (-9223372036854775808 ≤ v5) → (0 ≤ l1) → (0 ≤ l2) → (0 ≤ v4) → (0 ≤ v6) → (20 ≤ l2) → (l1 = l2) → (v3 < 9223372036854775808) → (v3 = v5) → (v4 < 256) → (v4 = v6) → (v5 < 9223372036854775808) → (v6 < 256) → (¬(v3 < 1)) → (¬(v3 ≥ 11)) → (¬(v4 < 0)) → (¬(v4 ≥ 3)) → (0 ≤ (l1 - 1) ∧ (l1 - 1) < l1) := by intros; omega -- VC 40.b ¦ call site 1
theorem vc_0_otp_truncate_index_1_b4 : ∀ (l1 l2 : Int), (0 ≤ l1) → (0 ≤ l2) → (20 ≤ l2) → (l1 = l2) → (0 ≤ (l1 - 1) ∧ (l1 - 1) < l1) := by intros; omega -- VC 40.b ¦ call site 4
theorem vc_0_otp_truncate_index_1_b : type_of% vc_0_otp_truncate_index_1_b1 ∧ type_of% vc_0_otp_truncate_index_1_b1 ∧ type_of% vc_0_otp_truncate_index_1_b1 ∧ type_of% vc_0_otp_truncate_index_1_b4 ∧ type_of% vc_0_otp_truncate_index_1_b4 := ⟨vc_0_otp_truncate_index_1_b1, vc_0_otp_truncate_index_1_b1, vc_0_otp_truncate_index_1_b1, vc_0_otp_truncate_index_1_b4, vc_0_otp_truncate_index_1_b4⟩ -- VC 40.b ¦ native ¦ otp.truncate ¦ sum[(len(sum) - 1)] (at its 5 call sites)
theorem vc_0_otp_truncate_index_2_b1 : ∀ (v1 l2 l3 v4 v5 v6 v7 : Int), (-9223372036854775808 ≤ v4) → (-9223372036854775808 ≤ v6) → (0 ≤ (l2 - 1) ∧ (l2 - 1) < l2) → (0 ≤ l2) → (0 ≤ l3) → (0 ≤ v1) → (0 ≤ v5) → (0 ≤ v7) → (20 ≤ l3) → (l2 = l3) → (v1 < 256) → (v4 < 9223372036854775808) → (v4 = v6) → (v5 < 256) → (v5 = v7) → (v6 < 9223372036854775808) → (v7 < 256) → (¬(v4 < 1)) → (¬(v4 ≥ 11)) → (¬(v5 < 0)) → (¬(v5 ≥ 3)) → (0 ≤ (v1 % 16) ∧ (v1 % 16) < l2) := by intros; omega -- VC 41.b ¦ call site 1
theorem vc_0_otp_truncate_index_2_b4 : ∀ (v1 l2 l3 : Int), (0 ≤ (l2 - 1) ∧ (l2 - 1) < l2) → (0 ≤ l2) → (0 ≤ l3) → (0 ≤ v1) → (20 ≤ l3) → (l2 = l3) → (v1 < 256) → (0 ≤ (v1 % 16) ∧ (v1 % 16) < l2) := by intros; omega -- VC 41.b ¦ call site 4
theorem vc_0_otp_truncate_index_2_b : type_of% vc_0_otp_truncate_index_2_b1 ∧ type_of% vc_0_otp_truncate_index_2_b1 ∧ type_of% vc_0_otp_truncate_index_2_b1 ∧ type_of% vc_0_otp_truncate_index_2_b4 ∧ type_of% vc_0_otp_truncate_index_2_b4 := ⟨vc_0_otp_truncate_index_2_b1, vc_0_otp_truncate_index_2_b1, vc_0_otp_truncate_index_2_b1, vc_0_otp_truncate_index_2_b4, vc_0_otp_truncate_index_2_b4⟩ -- VC 41.b ¦ native ¦ otp.truncate ¦ sum[(*sum[(len(sum) - 1)] & 15)] (at its 5 call sites)
theorem vc_0_otp_truncate_index_3_b1 : ∀ (v1 v2 l3 l4 v5 v6 v7 v8 : Int), (((v2 % 16) + 1 < 256 ∧ v1 = (v2 % 16) + 1) ∨ ((v2 % 16) + 1 ≥ 256 ∧ v1 = (v2 % 16) + 1 - 256)) → (-9223372036854775808 ≤ v5) → (-9223372036854775808 ≤ v7) → (0 ≤ (l3 - 1) ∧ (l3 - 1) < l3) → (0 ≤ (v2 % 16) ∧ (v2 % 16) < l3) → (0 ≤ l3) → (0 ≤ l4) → (0 ≤ v1) → (0 ≤ v2) → (0 ≤ v6) → (0 ≤ v8) → (20 ≤ l4) → (l3 = l4) → (v1 < 256) → (v2 < 256) → (v5 < 9223372036854775808) → (v5 = v7) → (v6 < 256) → (v6 = v8) → (v7 < 9223372036854775808) → (v8 < 256) → (¬(v5 < 1)) → (¬(v5 ≥ 11)) → (¬(v6 < 0)) → (¬(v6 ≥ 3)) → (0 ≤ v1 ∧ v1 < l3) := by intros; omega -- VC 42.b ¦ call site 1
theorem vc_0_otp_truncate_index_3_b4 : ∀ (v1 v2 l3 l4 : Int), (((v2 % 16) + 1 < 256 ∧ v1 = (v2 % 16) + 1) ∨ ((v2 % 16) + 1 ≥ 256 ∧ v1 = (v2 % 16) + 1 - 256)) → (0 ≤ (l3 - 1) ∧ (l3 - 1) < l3) → (0 ≤ (v2 % 16) ∧ (v2 % 16) < l3) → (0 ≤ l3) → (0 ≤ l4) → (0 ≤ v1) → (0 ≤ v2) → (20 ≤ l4) → (l3 = l4) → (v1 < 256) → (v2 < 256) → (0 ≤ v1 ∧ v1 < l3) := by intros; omega -- VC 42.b ¦ call site 4
theorem vc_0_otp_truncate_index_3_b : type_of% vc_0_otp_truncate_index_3_b1 ∧ type_of% vc_0_otp_truncate_index_3_b1 ∧ type_of% vc_0_otp_truncate_index_3_b1 ∧ type_of% vc_0_otp_truncate_index_3_b4 ∧ type_of% vc_0_otp_truncate_index_3_b4 := ⟨vc_0_otp_truncate_index_3_b1, vc_0_otp_truncate_index_3_b1, vc_0_otp_truncate_index_3_b1, vc_0_otp_truncate_index_3_b4, vc_0_otp_truncate_index_3_b4⟩ -- VC 42.b ¦ native ¦ otp.truncate ¦ sum[((*sum[(len(sum) - 1)] & 15) + 1)] (at its 5 call sites)
theorem vc_0_otp_truncate_index_4_b1 : ∀ (v1 v2 l3 v4 l5 v6 v7 v8 v9 : Int), (((v2 % 16) + 1 < 256 ∧ v4 = (v2 % 16) + 1) ∨ ((v2 % 16) + 1 ≥ 256 ∧ v4 = (v2 % 16) + 1 - 256)) → (((v2 % 16) + 2 < 256 ∧ v1 = (v2 % 16) + 2) ∨ ((v2 % 16) + 2 ≥ 256 ∧ v1 = (v2 % 16) + 2 - 256)) → (-9223372036854775808 ≤ v6) → (-9223372036854775808 ≤ v8) → (0 ≤ (l3 - 1) ∧ (l3 - 1) < l3) → (0 ≤ (v2 % 16) ∧ (v2 % 16) < l3) → (0 ≤ l3) → (0 ≤ l5) → (0 ≤ v1) → (0 ≤ v2) → (0 ≤ v4) → (0 ≤ v4 ∧ v4 < l3) → (0 ≤ v7) → (0 ≤ v9) → (20 ≤ l5) → (l3 = l5) → (v1 < 256) → (v2 < 256) → (v4 < 256) → (v6 < 9223372036854775808) → (v6 = v8) → (v7 < 256) → (v7 = v9) → (v8 < 9223372036854775808) → (v9 < 256) → (¬(v6 < 1)) → (¬(v6 ≥ 11)) → (¬(v7 < 0)) → (¬(v7 ≥ 3)) → (0 ≤ v1 ∧ v1 < l3) := by intros; omega -- VC 43.b ¦ call site 1
theorem vc_0_otp_truncate_index_4_b4 : ∀ (v1 v2 l3 v4 l5 : Int), (((v2 % 16) + 1 < 256 ∧ v4 = (v2 % 16) + 1) ∨ ((v2 % 16) + 1 ≥ 256 ∧ v4 = (v2 % 16) + 1 - 256)) → (((v2 % 16) + 2 < 256 ∧ v1 = (v2 % 16) + 2) ∨ ((v2 % 16) + 2 ≥ 256 ∧ v1 = (v2 % 16) + 2 - 256)) → (0 ≤ (l3 - 1) ∧ (l3 - 1) < l3) → (0 ≤ (v2 % 16) ∧ (v2 % 16) < l3) → (0 ≤ l3) → (0 ≤ l5) → (0 ≤ v1) → (0 ≤ v2) → (0 ≤ v4) → (0 ≤ v4 ∧ v4 < l3) → (20 ≤ l5) → (l3 = l5) → (v1 < 256) → (v2 < 256) → (v4 < 256) → (0 ≤ v1 ∧ v1 < l3) := by intros; omega -- VC 43.b ¦ call site 4
theorem vc_0_otp_truncate_index_4_b : type_of% vc_0_otp_truncate_index_4_b1 ∧ type_of% vc_0_otp_truncate_index_4_b1 ∧ type_of% vc_0_otp_truncate_index_4_b1 ∧ type_of% vc_0_otp_truncate_index_4_b4 ∧ type_of% vc_0_otp_truncate_index_4_b4 := ⟨vc_0_otp_truncate_index_4_b1, vc_0_otp_truncate_index_4_b1, vc_0_otp_truncate_index_4_b1, vc_0_otp_truncate_index_4_b4, vc_0_otp_truncate_index_4_b4⟩ -- VC 43.b ¦ native ¦ otp.truncate ¦ sum[((*sum[(len(sum) - 1)] & 15) + 2)] (at its 5 call sites)
theorem vc_0_otp_truncate_index_5_b1 : ∀ (v1 v2 l3 v4 v5 l6 v7 v8 v9 v10 : Int), (((v2 % 16) + 1 < 256 ∧ v4 = (v2 % 16) + 1) ∨ ((v2 % 16) + 1 ≥ 256 ∧ v4 = (v2 % 16) + 1 - 256)) → (((v2 % 16) + 2 < 256 ∧ v5 = (v2 % 16) + 2) ∨ ((v2 % 16) + 2 ≥ 256 ∧ v5 = (v2 % 16) + 2 - 256)) → (((v2 % 16) + 3 < 256 ∧ v1 = (v2 % 16) + 3) ∨ ((v2 % 16) + 3 ≥ 256 ∧ v1 = (v2 % 16) + 3 - 256)) → (-9223372036854775808 ≤ v7) → (-9223372036854775808 ≤ v9) → (0 ≤ (l3 - 1) ∧ (l3 - 1) < l3) → (0 ≤ (v2 % 16) ∧ (v2 % 16) < l3) → (0 ≤ l3) → (0 ≤ l6) → (0 ≤ v1) → (0 ≤ v10) → (0 ≤ v2) → (0 ≤ v4) → (0 ≤ v4 ∧ v4 < l3) → (0 ≤ v5) → (0 ≤ v5 ∧ v5 < l3) → (0 ≤ v8) → (20 ≤ l6) → (l3 = l6) → (v1 < 256) → (v10 < 256) → (v2 < 256) → (v4 < 256) → (v5 < 256) → (v7 < 9223372036854775808) → (v7 = v9) → (v8 < 256) → (v8 = v10) → (v9 < 9223372036854775808) → (¬(v7 < 1)) → (¬(v7 ≥ 11)) → (¬(v8 < 0)) → (¬(v8 ≥ 3)) → (0 ≤ v1 ∧ v1 < l3) := by intros; omega -- VC 44.b ¦ call site 1
theorem vc_0_otp_truncate_index_5_b4 : ∀ (v1 v2 l3 v4 v5 l6 : Int), (((v2 % 16) + 1 < 256 ∧ v4 = (v2 % 16) + 1) ∨ ((v2 % 16) + 1 ≥ 256 ∧ v4 = (v2 % 16) + 1 - 256)) → (((v2 % 16) + 2 < 256 ∧ v5 = (v2 % 16) + 2) ∨ ((v2 % 16) + 2 ≥ 256 ∧ v5 = (v2 % 16) + 2 - 256)) → (((v2 % 16) + 3 < 256 ∧ v1 = (v2 % 16) + 3) ∨ ((v2 % 16) + 3 ≥ 256 ∧ v1 = (v2 % 16) + 3 - 256)) → (0 ≤ (l3 - 1) ∧ (l3 - 1) < l3) → (0 ≤ (v2 % 16) ∧ (v2 % 16) < l3) → (0 ≤ l3) → (0 ≤ l6) → (0 ≤ v1) → (0 ≤ v2) → (0 ≤ v4) → (0 ≤ v4 ∧ v4 < l3) → (0 ≤ v5) → (0 ≤ v5 ∧ v5 < l3) → (20 ≤ l6) → (l3 = l6) → (v1 < 256) → (v2 < 256) → (v4 < 256) → (v5 < 256) → (0 ≤ v1 ∧ v1 < l3) := by intros; omega -- VC 44.b ¦ call site 4
theorem vc_0_otp_truncate_index_5_b : type_of% vc_0_otp_truncate_index_5_b1 ∧ type_of% vc_0_otp_truncate_index_5_b1 ∧ type_of% vc_0_otp_truncate_index_5_b1 ∧ type_of% vc_0_otp_truncate_index_5_b4 ∧ type_of% vc_0_otp_truncate_index_5_b4 := ⟨vc_0_otp_truncate_index_5_b1, vc_0_otp_truncate_index_5_b1, vc_0_otp_truncate_index_5_b1, vc_0_otp_truncate_index_5_b4, vc_0_otp_truncate_index_5_b4⟩ -- VC 44.b ¦ native ¦ otp.truncate ¦ sum[((*sum[(len(sum) - 1)] & 15) + 3)] (at its 5 call sites)
theorem vc_1_otp_DecodeSecret_index_1_a : type_of% vc_0_otp_DecodeSecret_index_1_a := vc_0_otp_DecodeSecret_index_1_a -- VC 46.a ¦ jswasm ¦ otp.DecodeSecret ¦ TrimSpace(secret)[i]
theorem vc_1_otp_DeriveRFC4226Wasm_index_1_a : ∀ (v1 : Int), (-9223372036854775808 ≤ v1) → (0 ≤ 0 ∧ 0 ≤ 8 ∧ 8 ≤ 8) → (v1 < 9223372036854775808) → (v1 ≤ 9) → (v1 ≥ 1) → (¬(v1 < 1)) → (¬(v1 ≥ 11)) → (0 ≤ v1 ∧ v1 < 11) := by intros; omega -- VC 47.a ¦ jswasm ¦ otp.DeriveRFC4226Wasm ¦ mod10[digits]
theorem vc_1_otp_DeriveRFC4226Wasm_makeslice_1_a : ∀ (v1 l2 : Int), (-9223372036854775808 ≤ v1) → (0 ≤ 0 ∧ 0 ≤ 8 ∧ 8 ≤ 8) → (0 ≤ l2) → (l2 < v1) → (v1 < 9223372036854775808) → (¬(v1 < 1)) → (¬(v1 ≥ 11)) → (0 ≤ (v1 - l2)) := by intros; omega -- VC 48.a ¦ jswasm ¦ otp.DeriveRFC4226Wasm ¦ make((digits - len(FormatUint(truncate(Sum(nil),mod),10))))
theorem vc_1_otp_DeriveRFC4226Wasm_index_2_a : ∀ (v1 v2 v3 l4 : Int), ((-1) ≤ v1) → ((v1 + 1) < (v3 - l4)) → ((v1 = (-1)) ∨ (v1 = v2)) → (-9223372036854775808 ≤ v1) → (-9223372036854775808 ≤ v2) → (-9223372036854775808 ≤ v3) → (0 ≤ 0 ∧ 0 ≤ 8 ∧ 8 ≤ 8) → (0 ≤ l4) → (l4 < v3) → (v1 < 9223372036854775808) → (v2 < 9223372036854775808) → (v3 < 9223372036854775808) → (¬(v3 < 1)) → (¬(v3 ≥ 11)) → (0 ≤ (v1 + 1) ∧ (v1 + 1) < (v3 - l4)) := by intros; omega -- VC 49.a ¦ jswasm ¦ otp.DeriveRFC4226Wasm ¦ *ssa.MakeSlice[(rangeindex + 1)]
theorem vc_1_otp_ParseDecimal64BigEndian_index_1_a : type_of% vc_0_otp_ParseDecimal64BigEndian_index_1_a := vc_0_otp_ParseDecimal64BigEndian_index_1_a -- VC 51.a ¦ jswasm ¦ otp.ParseDecimal64BigEndian ¦ makeslice[:][i]
theorem vc_1_otp_ParseDecimalToBigEndian8_index_1_a : type_of% vc_0_otp_ParseDecimal64BigEndian_index_1_a := vc_0_otp_ParseDecimal64BigEndian_index_1_a -- VC 52.a ¦ jswasm ¦ otp.ParseDecimalToBigEndian8 ¦ makeslice[:][i]
theorem vc_1_otp_ParseOTPAuthURL_index_1_a : type_of% vc_0_otp_ParseOTPAuthURL_index_1_a := vc_0_otp_ParseOTPAuthURL_index_1_a -- VC 53.a ¦ jswasm ¦ otp.ParseOTPAuthURL ¦ SplitN(TrimPrefix(*u.Path,"/"),":",2)[0]
theorem vc_1_otp_ParseOTPAuthURL_index_2_a : type_of% vc_0_otp_ParseOTPAuthURL_index_2_a := vc_0_otp_ParseOTPAuthURL_index_2_a -- VC 54.a ¦ jswasm ¦ otp.ParseOTPAuthURL ¦ SplitN(TrimPrefix(*u.Path,"/"),":",2)[1]
theorem vc_1_otp_RandomSecret_makeslice_1_a : type_of% vc_0_otp_RandomSecret_makeslice_1_a := vc_0_otp_RandomSecret_makeslice_1_a -- VC 55.a ¦ jswasm ¦ otp.RandomSecret ¦ make(size)
theorem vc_1_otp_To8ByteBigEndian_index_1_a : type_of% vc_0_otp_ParseDecimal64BigEndian_index_1_a := vc_0_otp_ParseDecimal64BigEndian_index_1_a -- VC 56.a ¦ jswasm ¦ otp.To8ByteBigEndian ¦ makeslice[:][i]
theorem vc_1_otp_deriveRFC4226_index_1_a : type_of% vc_0_otp_deriveRFC4226_index_1_a := vc_0_otp_deriveRFC4226_index_1_a -- VC 57.a ¦ jswasm ¦ otp.deriveRFC4226 ¦ hmacPools[algo]
theorem vc_1_otp_deriveRFC4226_index_2_a : type_of% vc_0_otp_deriveRFC4226_index_2_a := vc_0_otp_deriveRFC4226_index_2_a -- VC 58.a ¦ jswasm ¦ otp.deriveRFC4226 ¦ mod10[digits]
theorem vc_1_otp_deriveRFC6287_slice_1_a : type_of% vc_0_otp_deriveRFC6287_slice_1_a := vc_0_otp_deriveRFC6287_slice_1_a -- VC 59.a ¦ jswasm ¦ otp.deriveRFC6287 ¦ *Get(rfc6287BufPool)[:0]
theorem vc_1_otp_formatDecimal_index_1_a : type_of% vc_0_otp_formatDecimal_index_1_a := vc_0_otp_formatDecimal_index_1_a -- VC 63.a ¦ jswasm ¦ otp.formatDecimal ¦ *ssa.MakeSlice[i]
theorem vc_1_otp_longDigit_makeslice_1_b : type_of% vc_0_otp_longDigit_makeslice_1_b := vc_0_otp_longDigit_makeslice_1_b -- VC 65.b ¦ jswasm ¦ otp.longDigit ¦ make(digits) (at its 3 call sites)
theorem vc_1_otp_longDigit_index_1_a : type_of% vc_0_otp_formatDecimal_index_1_a := vc_0_otp_formatDecimal_index_1_a -- VC 66.a ¦ jswasm ¦ otp.longDigit ¦ *ssa.MakeSlice[i]
theorem vc_1_otp_padBytes_slice_1_b : type_of% vc_0_otp_padBytes_slice_1_b := vc_0_otp_padBytes_slice_1_b -- VC 67.b ¦ jswasm ¦ otp.padBytes ¦ input[:length] (at its 8 call sites)
theorem vc_1_otp_padBytes_makeslice_1_a : type_of% vc_0_otp_padBytes_makeslice_1_a := vc_0_otp_padBytes_makeslice_1_a -- VC 68.a ¦ jswasm ¦ otp.padBytes ¦ make(length)
theorem vc_1_otp_parseCryptoFunction_index_1_a : type_of% vc_0_otp_parseCryptoFunction_index_1_a := vc_0_otp_parseCryptoFunction_index_1_a -- VC 70.a ¦ jswasm ¦ otp.parseCryptoFunction ¦ Split(crypto[:],"-")[0]
theorem vc_1_otp_parseCryptoFunction_index_2_a : type_of% vc_0_otp_parseCryptoFunction_index_2_a := vc_0_otp_parseCryptoFunction_index_2_a -- VC 71.a ¦ jswasm ¦ otp.parseCryptoFunction ¦ Split(crypto[:],"-")[1]
theorem vc_1_otp_parseDataInputTokens_index_1_a : type_of% vc_0_otp_parseDataInputTokens_index_1_a := vc_0_otp_parseDataInputTokens_index_1_a -- VC 72.a ¦ jswasm ¦ otp.parseDataInputTokens ¦ Split(input,"-")[(rangeindex + 1)]
theorem vc_1_otp_parseDataInputTokens_slice_1_a : type_of% vc_0_otp_parseDataInputTokens_slice_1_a := vc_0_otp_parseDataInputTokens_slice_1_a -- VC 73.a ¦ jswasm ¦ otp.parseDataInputTokens ¦ ToUpper(*Split(input,"-")[(rangeindex + 1)])[2:]
theorem vc_1_otp_parseDataInputTokens_slice_3_a : type_of% vc_0_otp_parseDataInputTokens_slice_3_a := vc_0_otp_parseDataInputTokens_slice_3_a -- VC 75.a ¦ jswasm ¦ otp.parseDataInputTokens ¦ ToUpper(*Split(input,"-")[(rangeindex + 1)])[1:]
theorem vc_1_otp_parseRawSuite_index_1_a : type_of% vc_0_otp_DecodeSecret_index_1_a := vc_0_otp_DecodeSecret_index_1_a -- VC 76.a ¦ jswasm ¦ otp.parseRawSuite ¦ raw[i]
theorem vc_1_otp_parseRawSuite_index_2_a : type_of% vc_0_otp_parseRawSuite_index_2_a := vc_0_otp_parseRawSuite_index_2_a -- VC 77.a ¦ jswasm ¦ otp.parseRawSuite ¦ Split(raw,":")[1]
theorem vc_1_otp_parseRawSuite_index_3_a : type_of% vc_0_otp_parseRawSuite_index_3_a := vc_0_otp_parseRawSuite_index_3_a -- VC 78.a ¦ jswasm ¦ otp.parseRawSuite ¦ Split(raw,":")[2]
theorem vc_1_otp_parseRawSuite_index_4_a : type_of% vc_0_otp_parseRawSuite_index_4_a := vc_0_otp_parseRawSuite_index_4_a -- VC 79.a ¦ jswasm ¦ otp.parseRawSuite ¦ Split(raw,":")[0]
theorem vc_1_otp_parseRawSuite_index_5_a : type_of% vc_0_otp_parseRawSuite_index_5_a := vc_0_otp_parseRawSuite_index_5_a -- VC 80.a ¦ jswasm ¦ otp.parseRawSuite ¦ Split(raw,":")[0]
theorem vc_1_otp_parseSuiteNumber_index_1_a : type_of% vc_0_otp_parseSuiteNumber_index_1_a := vc_0_otp_parseSuiteNumber_index_1_a -- VC 81.a ¦ jswasm ¦ otp.parseSuiteNumber ¦ s[i]
theorem vc_1_otp_parseSuiteNumber_index_2_a : type_of% vc_0_otp_parseSuiteNumber_index_2_a := vc_0_otp_parseSuiteNumber_index_2_a -- VC 82.a ¦ jswasm ¦ otp.parseSuiteNumber ¦ s[i]
theorem vc_1_otp_parseSuiteNumber_index_3_a : type_of% vc_0_otp_parseSuiteNumber_index_3_a := vc_0_otp_parseSuiteNumber_index_3_a -- VC 83.a ¦ jswasm ¦ otp.parseSuiteNumber ¦ s[i]
theorem vc_1_otp_parseTimeGranularity_slice_1_a : type_of% vc_0_otp_parseTimeGranularity_slice_1_a := vc_0_otp_parseTimeGranularity_slice_1_a -- VC 84.a ¦ jswasm ¦ otp.parseTimeGranularity ¦ g[:(len(g) - 1)]
theorem vc_1_otp_parseTimeGranularity_index_1_a : type_of% vc_0_otp_parseTimeGranularity_index_1_a := vc_0_otp_parseTimeGranularity_index_1_a -- VC 85.a ¦ jswasm ¦ otp.parseTimeGranularity ¦ g[(len(g) - 1)]
theorem vc_1_otp_shortDigit_index_1_b : type_of% vc_0_otp_shortDigit_index_1_b := vc_0_otp_shortDigit_index_1_b -- VC 86.b ¦ jswasm ¦ otp.shortDigit ¦ pad[i] (at its 3 call sites)
theorem vc_1_otp_shortDigit_slice_1_b : type_of% vc_0_otp_shortDigit_slice_1_b := vc_0_otp_shortDigit_slice_1_b -- VC 88.b ¦ jswasm ¦ otp.shortDigit ¦ pad[:digits] (at its 3 call sites)
theorem vc_1_otp_truncate_index_1_b1 : ∀ (l1 l2 v3 : Int), (-9223372036854775808 ≤ v3) → (0 ≤ l1) → (0 ≤ l2) → (20 ≤ l2) → (l1 = l2) → (v3 < 9223372036854775808) → (¬(v3 < 1)) → (¬(v3 ≥ 11)) → (0 ≤ (l1 - 1) ∧ (l1 - 1) < l1) := by intros; omega -- VC 89.b ¦ call site 1
theorem vc_1_otp_truncate_index_1_b : type_of% vc_1_otp_truncate_index_1_b1 ∧ type_of% vc_0_otp_truncate_index_1_b1 ∧ type_of% vc_0_otp_truncate_index_1_b1 ∧ type_of% vc_0_otp_truncate_index_1_b1 ∧ type_of% vc_0_otp_truncate_index_1_b4 ∧ type_of% vc_0_otp_truncate_index_1_b4 := ⟨vc_1_otp_truncate_index_1_b1, vc_0_otp_truncate_index_1_b1, vc_0_otp_truncate_index_1_b1, vc_0_otp_truncate_index_1_b1, vc_0_otp_truncate_index_1_b4, vc_0_otp_truncate_index_1_b4⟩ -- VC 89.b ¦ jswasm ¦ otp.truncate ¦ sum[(len(sum) - 1)] (at its 6 call sites)
theorem vc_1_otp_truncate_index_2_b1 : ∀ (v1 l2 l3 v4 : Int), (-9223372036854775808 ≤ v4) → (0 ≤ (l2 - 1) ∧ (l2 - 1) < l2) → (0 ≤ l2) → (0 ≤ l3) → (0 ≤ v1) → (20 ≤ l3) → (l2 = l3) → (v1 < 256) → (v4 < 9223372036854775808) → (¬(v4 < 1)) → (¬(v4 ≥ 11)) → (0 ≤ (v1 % 16) ∧ (v1 % 16) < l2) := by intros; omega -- VC 90.b ¦ call site 1
theorem vc_1_otp_truncate_index_2_b : type_of% vc_1_otp_truncate_index_2_b1 ∧ type_of% vc_0_otp_truncate_index_2_b1 ∧ type_of% vc_0_otp_truncate_index_2_b1 ∧ type_of% vc_0_otp_truncate_index_2_b1 ∧ type_of% vc_0_otp_truncate_index_2_b4 ∧ type_of% vc_0_otp_truncate_index_2_b4 := ⟨vc_1_otp_truncate_index_2_b1, vc_0_otp_truncate_index_2_b1, vc_0_otp_truncate_index_2_b1, vc_0_otp_truncate_index_2_b1, vc_0_otp_truncate_index_2_b4, vc_0_otp_truncate_index_2_b4⟩ -- VC 90.b ¦ jswasm ¦ otp.truncate ¦ sum[(*sum[(len(sum) - 1)] & 15)] (at its 6 call sites)
theorem vc_1_otp_truncate_index_3_b1 : ∀ (v1 v2 l3 l4 v5 : Int), (((v2 % 16) + 1 < 256 ∧ v1 = (v2 % 16) + 1) ∨ ((v2 % 16) + 1 ≥ 256 ∧ v1 = (v2 % 16) + 1 - 256)) → (-9223372036854775808 ≤ v5) → (0 ≤ (l3 - 1) ∧ (l3 - 1) < l3) → (0 ≤ (v2 % 16) ∧ (v2 % 16) < l3) → (0 ≤ l3) → (0 ≤ l4) → (0 ≤ v1) → (0 ≤ v2) → (20 ≤ l4) → (l3 = l4) → (v1 < 256) → (v2 < 256) → (v5 < 9223372036854775808) → (¬(v5 < 1)) → (¬(v5 ≥ 11)) → (0 ≤ v1 ∧ v1 < l3) := by intros; omega -- VC 91.b ¦ call site 1
theorem vc_1_otp_truncate_index_3_b : type_of% vc_1_otp_truncate_index_3_b1 ∧ type_of% vc_0_otp_truncate_index_3_b1 ∧ type_of% vc_0_otp_truncate_index_3_b1 ∧ type_of% vc_0_otp_truncate_index_3_b1 ∧ type_of% vc_0_otp_truncate_index_3_b4 ∧ type_of% vc_0_otp_truncate_index_3_b4 := ⟨vc_1_otp_truncate_index_3_b1, vc_0_otp_truncate_index_3_b1, vc_0_otp_truncate_index_3_b1, vc_0_otp_truncate_index_3_b1, vc_0_otp_truncate_index_3_b4, vc_0_otp_truncate_index_3_b4⟩ -- VC 91.b ¦ jswasm ¦ otp.truncate ¦ sum[((*sum[(len(sum) - 1)] & 15) + 1)] (at its 6 call sites)
theorem vc_1_otp_truncate_index_4_b1 : ∀ (v1 v2 l3 v4 l5 v6 : Int), (((v2 % 16) + 1 < 256 ∧ v4 = (v2 % 16) + 1) ∨ ((v2 % 16) + 1 ≥ 256 ∧ v4 = (v2 % 16) + 1 - 256)) → (((v2 % 16) + 2 < 256 ∧ v1 = (v2 % 16) + 2) ∨ ((v2 % 16) + 2 ≥ 256 ∧ v1 = (v2 % 16) + 2 - 256)) → (-9223372036854775808 ≤ v6) → (0 ≤ (l3 - 1) ∧ (l3 - 1) < l3) → (0 ≤ (v2 % 16) ∧ (v2 % 16) < l3) → (0 ≤ l3) → (0 ≤ l5) → (0 ≤ v1) → (0 ≤ v2) → (0 ≤ v4) → (0 ≤ v4 ∧ v4 < l3) → (20 ≤ l5) → (l3 = l5) → (v1 < 256) → (v2 < 256) → (v4 < 256) → (v6 < 9223372036854775808) → (¬(v6 < 1)) → (¬(v6 ≥ 11)) → (0 ≤ v1 ∧ v1 < l3) := by intros; omega -- VC 92.b ¦ call site 1
theorem vc_1_otp_truncate_index_4_b : type_of% vc_1_otp_truncate_index_4_b1 ∧ type_of% vc_0_otp_truncate_index_4_b1 ∧ type_of% vc_0_otp_truncate_index_4_b1 ∧ type_of% vc_0_otp_truncate_index_4_b1 ∧ type_of% vc_0_otp_truncate_index_4_b4 ∧ type_of% vc_0_otp_truncate_index_4_b4 := ⟨vc_1_otp_truncate_index_4_b1, vc_0_otp_truncate_index_4_b1, vc_0_otp_truncate_index_4_b1, vc_0_otp_truncate_index_4_b1, vc_0_otp_truncate_index_4_b4, vc_0_otp_truncate_index_4_b4⟩ -- VC 92.b ¦ jswasm ¦ otp.truncate ¦ sum[((*sum[(len(sum) - 1)] & 15) + 2)] (at its 6 call sites)
theorem vc_1_otp_truncate_index_5_b1 : ∀ (v1 v2 l3 v4 v5 l6 v7 : Int), (((v2 % 16) + 1 < 256 ∧ v4 = (v2 % 16) + 1) ∨ ((v2 % 16) + 1 ≥ 256 ∧ v4 = (v2 % 16) + 1 - 256)) → (((v2 % 16) + 2 < 256 ∧ v5 = (v2 % 16) + 2) ∨ ((v2 % 16) + 2 ≥ 256 ∧ v5 = (v2 % 16) + 2 - 256)) → (((v2 % 16) + 3 < 256 ∧ v1 = (v2 % 16) + 3) ∨ ((v2 % 16) + 3 ≥ 256 ∧ v1 = (v2 % 16) + 3 - 256)) → (-9223372036854775808 ≤ v7) → (0 ≤ (l3 - 1) ∧ (l3 - 1) < l3) → (0 ≤ (v2 % 16) ∧ (v2 % 16) < l3) → (0 ≤ l3) → (0 ≤ l6) → (0 ≤ v1) → (0 ≤ v2) → (0 ≤ v4) → (0 ≤ v4 ∧ v4 < l3) → (0 ≤ v5) → (0 ≤ v5 ∧ v5 < l3) → (20 ≤ l6) → (l3 = l6) → (v1 < 256) → (v2 < 256) → (v4 < 256) → (v5 < 256) → (v7 < 9223372036854775808) → (¬(v7 < 1)) → (¬(v7 ≥ 11)) → (0 ≤ v1 ∧ v1 < l3) := by intros; omega -- VC 93.b ¦ call site 1
theorem vc_1_otp_truncate_index_5_b : type_of% vc_1_otp_truncate_index_5_b1 ∧ type_of% vc_0_otp_truncate_index_5_b1 ∧ type_of% vc_0_otp_truncate_index_5_b1 ∧ type_of% vc_0_otp_truncate_index_5_b1 ∧ type_of% vc_0_otp_truncate_index_5_b4 ∧ type_of% vc_0_otp_truncate_index_5_b4 := ⟨vc_1_otp_truncate_index_5_b1, vc_0_otp_truncate_index_5_b1, vc_0_otp_truncate_index_5_b1, vc_0_otp_truncate_index_5_b1, vc_0_otp_truncate_index_5_b4, vc_0_otp_truncate_index_5_b4⟩ -- VC 93.b ¦ jswasm ¦ otp.truncate ¦ sum[((*sum[(len(sum) - 1)] & 15) + 3)] (at its 6 call sites)

def proved : List Proved :=
  ⟨(0, [111,116,112,46,68,101,99,111,100,101,83,101,99,114,101,116], [105,110,100,101,120], [84,114,105,109,83,112,97,99,101,40,115,101,99,114,101,116,41,91,105,93], [[40,105,32,60,32,108,101,110,40,84,114,105,109,83,112,97,99,101,40,115,101,99,114,101,116,41,41,41]]), _, vc_0_otp_DecodeSecret_index_1_a⟩ :: -- VCENTRY 0.a
  ⟨(0, [111,116,112,46,80,97,114,115,101,68,101,99,105,109,97,108,54,52,66,105,103,69,110,100,105,97,110], [105,110,100,101,120], [109,97,107,101,115,108,105,99,101,91,58,93,91,105,93], [[40,105,32,62,61,32,48,41]]), _, vc_0_otp_ParseDecimal64BigEndian_index_1_a⟩ :: -- VCENTRY 2.a
  ⟨(0, [111,116,112,46,80,97,114,115,101,68,101,99,105,109,97,108,84,111,66,105,103,69,110,100,105,97,110,56], [105,110,100,101,120], [109,97,107,101,115,108,105,99,101,91,58,93,91,105,93], [[40,105,32,62,61,32,48,41]]), _, vc_0_otp_ParseDecimalToBigEndian8_index_1_a⟩ :: -- VCENTRY 3.a
  ⟨(0, [111,116,112,46,80,97,114,115,101,79,84,80,65,117,116,104,85,82,76], [105,110,100,101,120], [83,112,108,105,116,78,40,84,114,105,109,80,114,101,102,105,120,40,42,117,46,80,97,116,104,44,34,47,34,41,44,34,58,34,44,50,41,91,48,93], [[33,40,108,101,110,40,83,112,108,105,116,78,40,84,114,105,109,80,114,101,102,105,120,40,42,117,46,80,97,116,104,44,34,47,34,41,44,34,58,34,44,50,41,41,32,33,61,32,50,41]]), _, vc_0_otp_ParseOTPAuthURL_index_1_a⟩ :: -- VCENTRY 4.a
  ⟨(0, [111,116,112,46,80,97,114,115,101,79,84,80,65,117,116,104,85,82,76], [105,110,100,101,120], [83,112,108,105,116,78,40,84,114,105,109,80,114,101,102,105,120,40,42,117,46,80,97,116,104,44,34,47,34,41,44,34,58,34,44,50,41,91,49,93], [[33,40,108,101,110,40,83,112,108,105,116,78,40,84,114,105,109,80,114,101,102,105,120,40,42,117,46,80,97,116,104,44,34,47,34,41,44,34,58,34,44,50,41,41,32,33,61,32,50,41]]), _, vc_0_otp_ParseOTPAuthURL_index_2_a⟩ :: -- VCENTRY 5.a
  ⟨(0, [111,116,112,46,82,97,110,100,111,109,83,101,99,114,101,116], [109,97,107,101,115,108,105,99,101], [109,97,107,101,40,115,105,122,101,41], []), _, vc_0_otp_RandomSecret_makeslice_1_a⟩ :: -- VCENTRY 6.a
  ⟨(0, [111,116,112,46,84,111,56,66,121,116,101,66,105,103,69,110,100,105,97,110], [105,110,100,101,120], [109,97,107,101,115,108,105,99,101,91,58,93,91,105,93], [[40,105,32,62,61,32,48,41]]), _, vc_0_otp_To8ByteBigEndian_index_1_a⟩ :: -- VCENTRY 7.a
  ⟨(0, [111,116,112,46,100,101,114,105,118,101,82,70,67,52,50,50,54], [105,110,100,101,120], [104,109,97,99,80,111,111,108,115,91,97,108,103,111,93], [[33,40,97,108,103,111,32,60,32,48,41], [33,40,97,108,103,111,32,62,61,32,51,41]]), _, vc_0_otp_deriveRFC4226_index_1_a⟩ :: -- VCENTRY 8.a
  ⟨(0, [111,116,112,46,100,101,114,105,118,101,82,70,67,52,50,50,54], [105,110,100,101,120], [109,111,100,49,48,91,100,105,103,105,116,115,93], [[33,40,100,105,103,105,116,115,32,60,32,49,41], [33,40,100,105,103,105,116,115,32,62,61,32,49,49,41]]), _, vc_0_otp_deriveRFC4226_index_2_a⟩ :: -- VCENTRY 9.a
  ⟨(0, [111,116,112,46,100,101,114,105,118,101,82,70,67,54,50,56,55], [115,108,105,99,101], [42,71,101,116,40,114,102,99,54,50,56,55,66,117,102,80,111,111,108,41,91,58,48,93], []), _, vc_0_otp_deriveRFC6287_slice_1_a⟩ :: -- VCENTRY 10.a
  ⟨(0, [111,116,112,46,102,111,114,109,97,116,68,101,99,105,109,97,108], [105,110,100,101,120], [42,115,115,97,46,77,97,107,101,83,108,105,99,101,91,105,93], [[40,105,32,62,61,32,48,41]]), _, vc_0_otp_formatDecimal_index_1_a⟩ :: -- VCENTRY 14.a
  ⟨(0, [111,116,112,46,108,111,110,103,68,105,103,105,116], [109,97,107,101,115,108,105,99,101], [109,97,107,101,40,100,105,103,105,116,115,41], []), _, vc_0_otp_longDigit_makeslice_1_b⟩ :: -- VCENTRY 16.b
  ⟨(0, [111,116,112,46,108,111,110,103,68,105,103,105,116], [105,110,100,101,120], [42,115,115,97,46,77,97,107,101,83,108,105,99,101,91,105,93], [[40,105,32,62,61,32,48,41]]), _, vc_0_otp_longDigit_index_1_a⟩ :: -- VCENTRY 17.a
  ⟨(0, [111,116,112,46,112,97,100,66,121,116,101,115], [115,108,105,99,101], [105,110,112,117,116,91,58,108,101,110,103,116,104,93], [[40,108,101,110,40,105,110,112,117,116,41,32,62,61,32,108,101,110,103,116,104,41]]), _, vc_0_otp_padBytes_slice_1_b⟩ :: -- VCENTRY 18.b
  ⟨(0, [111,116,112,46,112,97,100,66,121,116,101,115], [109,97,107,101,115,108,105,99,101], [109,97,107,101,40,108,101,110,103,116,104,41], [[33,40,108,101,110,40,105,110,112,117,116,41,32,62,61,32,108,101,110,103,116,104,41]]), _, vc_0_otp_padBytes_makeslice_1_a⟩ :: -- VCENTRY 19.a
  ⟨(0, [111,116,112,46,112,97,114,115,101,67,114,121,112,116,111,70,117,110,99,116,105,111,110], [105,110,100,101,120], [83,112,108,105,116,40,99,114,121,112,116,111,91,58,93,44,34,45,34,41,91,48,93], [[33,40,108,101,110,40,83,112,108,105,116,40,99,114,121,112,116,111,91,58,93,44,34,45,34,41,41,32,33,61,32,50,41]]), _, vc_0_otp_parseCryptoFunction_index_1_a⟩ :: -- VCENTRY 21.a
  ⟨(0, [111,116,112,46,112,97,114,115,101,67,114,121,112,116,111,70,117,110,99,116,105,111,110], [105,110,100,101,120], [83,112,108,105,116,40,99,114,121,112,116,111,91,58,93,44,34,45,34,41,91,49,93], [[33,40,108,101,110,40,83,112,108,105,116,40,99,114,121,112,116,111,91,58,93,44,34,45,34,41,41,32,33,61,32,50,41]]), _, vc_0_otp_parseCryptoFunction_index_2_a⟩ :: -- VCENTRY 22.a
  ⟨(0, [111,116,112,46,112,97,114,115,101,68,97,116,97,73,110,112,117,116,84,111,107,101,110,115], [105,110,100,101,120], [83,112,108,105,116,40,105,110,112,117,116,44,34,45,34,41,91,40,114,97,110,103,101,105,110,100,101,120,32,43,32,49,41,93], [[40,40,114,97,110,103,101,105,110,100,101,120,32,43,32,49,41,32,60,32,108,101,110,40,83,112,108,105,116,40,105,110,112,117,116,44,34,45,34,41,41,41]]), _, vc_0_otp_parseDataInputTokens_index_1_a⟩ :: -- VCENTRY 23.a
  ⟨(0, [111,116,112,46,112,97,114,115,101,68,97,116,97,73,110,112,117,116,84,111,107,101,110,115], [115,108,105,99,101], [84,111,85,112,112,101,114,40,42,83,112,108,105,116,40,105,110,112,117,116,44,34,45,34,41,91,40,114,97,110,103,101,105,110,100,101,120,32,43,32,49,41,93,41,91,50,58,93], [[33,40,84,111,85,112,112,101,114,40,42,83,112,108,105,116,40,105,110,112,117,116,44,34,45,34,41,91,40,114,97,110,103,101,105,110,100,101,120,32,43,32,49,41,93,41,32,61,61,32,34,67,34,41], [40,108,101,110,40,84,111,85,112,112,101,114,40,42,83,112,108,105,116,40,105,110,112,117,116,44,34,45,34,41,91,40,114,97,110,103,101,105,110,100,101,120,32,43,32,49,41,93,41,41,32,61,61,32,52,41]]), _, vc_0_otp_parseDataInputTokens_slice_1_a⟩ :: -- VCENTRY 24.a
  ⟨(0, [111,116,112,46,112,97,114,115,101,68,97,116,97,73,110,112,117,116,84,111,107,101,110,115], [115,108,105,99,101], [84,111,85,112,112,101,114,40,42,83,112,108,105,116,40,105,110,112,117,116,44,34,45,34,41,91,40,114,97,110,103,101,105,110,100,101,120,32,43,32,49,41,93,41,91,49,58,93], [[33,40,84,111,85,112,112,101,114,40,42,83,112,108,105,116,40,105,110,112,117,116,44,34,45,34,41,91,40,114,97,110,103,101,105,110,100,101,120,32,43,32,49,41,93,41,32,61,61,32,34,67,34,41], [40,108,101,110,40,84,111,85,112,112,101,114,40,42,83,112,108,105,116,40,105,110,112,117,116,44,34,45,34,41,91,40,114,97,110,103,101,105,110,100,101,120,32,43,32,49,41,93,41,41,32,33,61,32,49,41]]), _, vc_0_otp_parseDataInputTokens_slice_3_a⟩ :: -- VCENTRY 26.a
  ⟨(0, [111,116,112,46,112,97,114,115,101,82,97,119,83,117,105,116,101], [105,110,100,101,120], [114,97,119,91,105,93], [[40,105,32,60,32,108,101,110,40,114,97,119,41,41]]), _, vc_0_otp_parseRawSuite_index_1_a⟩ :: -- VCENTRY 27.a
  ⟨(0, [111,116,112,46,112,97,114,115,101,82,97,119,83,117,105,116,101], [105,110,100,101,120], [83,112,108,105,116,40,114,97,119,44,34,58,34,41,91,49,93], [[33,40,108,101,110,40,83,112,108,105,116,40,114,97,119,44,34,58,34,41,41,32,33,61,32,51,41]]), _, vc_0_otp_parseRawSuite_index_2_a⟩ :: -- VCENTRY 28.a
  ⟨(0, [111,116,112,46,112,97,114,115,101,82,97,119,83,117,105,116,101], [105,110,100,101,120], [83,112,108,105,116,40,114,97,119,44,34,58,34,41,91,50,93], [[33,40,108,101,110,40,83,112,108,105,116,40,114,97,119,44,34,58,34,41,41,32,33,61,32,51,41]]), _, vc_0_otp_parseRawSuite_index_3_a⟩ :: -- VCENTRY 29.a
  ⟨(0, [111,116,112,46,112,97,114,115,101,82,97,119,83,117,105,116,101], [105,110,100,101,120], [83,112,108,105,116,40,114,97,119,44,34,58,34,41,91,48,93], [[33,40,108,101,110,40,83,112,108,105,116,40,114,97,119,44,34,58,34,41,41,32,33,61,32,51,41]]), _, vc_0_otp_parseRawSuite_index_4_a⟩ :: -- VCENTRY 30.a
  ⟨(0, [111,116,112,46,112,97,114,115,101,82,97,119,83,117,105,116,101], [105,110,100,101,120], [83,112,108,105,116,40,114,97,119,44,34,58,34,41,91,48,93], [[33,40,108,101,110,40,83,112,108,105,116,40,114,97,119,44,34,58,34,41,41,32,33,61,32,51,41]]), _, vc_0_otp_parseRawSuite_index_5_a⟩ :: -- VCENTRY 31.a
  ⟨(0, [111,116,112,46,112,97,114,115,101,83,117,105,116,101,78,117,109,98,101,114], [105,110,100,101,120], [115,91,105,93], [[33,40,108,101,110,40,115,41,32,61,61,32,48,41], [33,40,108,101,110,40,115,41,32,62,32,51,41], [40,105,32,60,32,108,101,110,40,115,41,41]]), _, vc_0_otp_parseSuiteNumber_index_1_a⟩ :: -- VCENTRY 32.a
  ⟨(0, [111,116,112,46,112,97,114,115,101,83,117,105,116,101,78,117,109,98,101,114], [105,110,100,101,120], [115,91,105,93], [[33,40,108,101,110,40,115,41,32,61,61,32,48,41], [33,40,108,101,110,40,115,41,32,62,32,51,41], [40,105,32,60,32,108,101,110,40,115,41,41]]), _, vc_0_otp_parseSuiteNumber_index_2_a⟩ :: -- VCENTRY 33.a
  ⟨(0, [111,116,112,46,112,97,114,115,101,83,117,105,116,101,78,117,109,98,101,114], [105,110,100,101,120], [115,91,105,93], [[33,40,108,101,110,40,115,41,32,61,61,32,48,41], [33,40,108,101,110,40,115,41,32,62,32,51,41], [40,105,32,60,32,108,101,110,40,115,41,41]]), _, vc_0_otp_parseSuiteNumber_index_3_a⟩ :: -- VCENTRY 34.a
  ⟨(0, [111,116,112,46,112,97,114,115,101,84,105,109,101,71,114,97,110,117,108,97,114,105,116,121], [115,108,105,99,101], [103,91,58,40,108,101,110,40,103,41,32,45,32,49,41,93], [[33,40,108,101,110,40,103,41,32,60,32,50,41]]), _, vc_0_otp_parseTimeGranularity_slice_1_a⟩ :: -- VCENTRY 35.a
  ⟨(0, [111,116,112,46,112,97,114,115,101,84,105,109,101,71,114,97,110,117,108,97,114,105,116,121], [105,110,100,101,120], [103,91,40,108,101,110,40,103,41,32,45,32,49,41,93], [[33,40,108,101,110,40,103,41,32,60,32,50,41]]), _, vc_0_otp_parseTimeGranularity_index_1_a⟩ :: -- VCENTRY 36.a
  ⟨(0, [111,116,112,46,115,104,111,114,116,68,105,103,105,116], [105,110,100,101,120], [112,97,100,91,105,93], [[40,105,32,62,61,32,48,41]]), _, vc_0_otp_shortDigit_index_1_b⟩ :: -- VCENTRY 37.b
  ⟨(0, [111,116,112,46,115,104,111,114,116,68,105,103,105,116], [115,108,105,99,101], [112,97,100,91,58,100,105,103,105,116,115,93], []), _, vc_0_otp_shortDigit_slice_1_b⟩ :: -- VCENTRY 39.b
  ⟨(0, [111,116,112,46,116,114,117,110,99,97,116,101], [105,110,100,101,120], [115,117,109,91,40,108,101,110,40,115,117,109,41,32,45,32,49,41,93], []), _, vc_0_otp_truncate_index_1_b⟩ :: -- VCENTRY 40.b
  ⟨(0, [111,116,112,46,116,114,117,110,99,97,116,101], [105,110,100,101,120], [115,117,109,91,40,42,115,117,109,91,40,108,101,110,40,115,117,109,41,32,45,32,49,41,93,32,38,32,49,53,41,93], []), _, vc_0_otp_truncate_index_2_b⟩ :: -- VCENTRY 41.b
  ⟨(0, [111,116,112,46,116,114,117,110,99,97,116,101], [105,110,100,101,120], [115,117,109,91,40,40,42,115,117,109,91,40,108,101,110,40,115,117,109,41,32,45,32,49,41,93,32,38,32,49,53,41,32,43,32,49,41,93], []), _, vc_0_otp_truncate_index_3_b⟩ :: -- VCENTRY 42.b
  ⟨(0, [111,116,112,46,116,114,117,110,99,97,116,101], [105,110,100,101,120], [115,117,109,91,40,40,42,115,117,109,91,40,108,101,110,40,115,117,109,41,32,45,32,49,41,93,32,38,32,49,53,41,32,43,32,50,41,93], []), _, vc_0_otp_truncate_index_4_b⟩ :: -- VCENTRY 43.b
  ⟨(0, [111,116,112,46,116,114,117,110,99,97,116,101], [105,110,100,101,120], [115,117,109,91,40,40,42,115,117,109,91,40,108,101,110,40,115,117,109,41,32,45,32,49,41,93,32,38,32,49,53,41,32,43,32,51,41,93], []), _, vc_0_otp_truncate_index_5_b⟩ :: -- VCENTRY 44.b
  ⟨(1, [111,116,112,46,68,101,99,111,100,101,83,101,99,114,101,116], [105,110,100,101,120], [84,114,105,109,83,112,97,99,101,40,115,101,99,114,101,116,41,91,105,93], [[40,105,32,60,32,108,101,110,40,84,114,105,109,83,112,97,99,101,40,115,101,99,114,101,116,41,41,41]]), _, vc_1_otp_DecodeSecret_index_1_a⟩ :: -- VCENTRY 46.a
  ⟨(1, [111,116,112,46,68,101,114,105,118,101,82,70,67,52,50,50,54,87,97,115,109], [105,110,100,101,120], [109,111,100,49,48,91,100,105,103,105,116,115,93], [[33,40,100,105,103,105,116,115,32,60,32,49,41], [33,40,100,105,103,105,116,115,32,62,61,32,49,49,41], [40,100,105,103,105,116,115,32,60,61,32,57,41], [40,100,105,103,105,116,115,32,62,61,32,49,41]]), _, vc_1_otp_DeriveRFC4226Wasm_index_1_a⟩ :: -- VCENTRY 47.a
  ⟨(1, [111,116,112,46,68,101,114,105,118,101,82,70,67,52,50,50,54,87,97,115,109], [109,97,107,101,115,108,105,99,101], [109,97,107,101,40,40,100,105,103,105,116,115,32,45,32,108,101,110,40,70,111,114,109,97,116,85,105,110,116,40,116,114,117,110,99,97,116,101,40,83,117,109,40,110,105,108,41,44,109,111,100,41,44,49,48,41,41,41,41], []), _, vc_1_otp_DeriveRFC4226Wasm_makeslice_1_a⟩ :: -- VCENTRY 48.a
  ⟨(1, [111,116,112,46,68,101,114,105,118,101,82,70,67,52,50,50,54,87,97,115,109], [105,110,100,101,120], [42,115,115,97,46,77,97,107,101,83,108,105,99,101,91,40,114,97,110,103,101,105,110,100,101,120,32,43,32,49,41,93], [[40,40,114,97,110,103,101,105,110,100,101,120,32,43,32,49,41,32,60,32,108,101,110,40,42,115,115,97,46,77,97,107,101,83,108,105,99,101,41,41]]), _, vc_1_otp_DeriveRFC4226Wasm_index_2_a⟩ :: -- VCENTRY 49.a
  ⟨(1, [111,116,112,46,80,97,114,115,101,68,101,99,105,109,97,108,54,52,66,105,103,69,110,100,105,97,110], [105,110,100,101,120], [109,97,107,101,115,108,105,99,101,91,58,93,91,105,93], [[40,105,32,62,61,32,48,41]]), _, vc_1_otp_ParseDecimal64BigEndian_index_1_a⟩ :: -- VCENTRY 51.a
  ⟨(1, [111,116,112,46,80,97,114,115,101,68,101,99,105,109,97,108,84,111,66,105,103,69,110,100,105,97,110,56], [105,110,100,101,120], [109,97,107,101,115,108,105,99,101,91,58,93,91,105,93], [[40,105,32,62,61,32,48,41]]), _, vc_1_otp_ParseDecimalToBigEndian8_index_1_a⟩ :: -- VCENTRY 52.a
  ⟨(1, [111,116,112,46,80,97,114,115,101,79,84,80,65,117,116,104,85,82,76], [105,110,100,101,120], [83,112,108,105,116,78,40,84,114,105,109,80,114,101,102,105,120,40,42,117,46,80,97,116,104,44,34,47,34,41,44,34,58,34,44,50,41,91,48,93], [[33,40,108,101,110,40,83,112,108,105,116,78,40,84,114,105,109,80,114,101,102,105,120,40,42,117,46,80,97,116,104,44,34,47,34,41,44,34,58,34,44,50,41,41,32,33,61,32,50,41]]), _, vc_1_otp_ParseOTPAuthURL_index_1_a⟩ :: -- VCENTRY 53.a
  ⟨(1, [111,116,112,46,80,97,114,115,101,79,84,80,65,117,116,104,85,82,76], [105,110,100,101,120], [83,112,108,105,116,78,40,84,114,105,109,80,114,101,102,105,120,40,42,117,46,80,97,116,104,44,34,47,34,41,44,34,58,34,44,50,41,91,49,93], [[33,40,108,101,110,40,83,112,108,105,116,78,40,84,114,105,109,80,114,101,102,105,120,40,42,117,46,80,97,116,104,44,34,47,34,41,44,34,58,34,44,50,41,41,32,33,61,32,50,41]]), _, vc_1_otp_ParseOTPAuthURL_index_2_a⟩ :: -- VCENTRY 54.a
  ⟨(1, [111,116,112,46,82,97,110,100,111,109,83,101,99,114,101,116], [109,97,107,101,115,108,105,99,101], [109,97,107,101,40,115,105,122,101,41], []), _, vc_1_otp_RandomSecret_makeslice_1_a⟩ :: -- VCENTRY 55.a
  ⟨(1, [111,116,112,46,84,111,56,66,121,116,101,66,105,103,69,110,100,105,97,110], [105,110,100,101,120], [109,97,107,101,115,108,105,99,101,91,58,93,91,105,93], [[40,105,32,62,61,32,48,41]]), _, vc_1_otp_To8ByteBigEndian_index_1_a⟩ :: -- VCENTRY 56.a
  ⟨(1, [111,116,112,46,100,101,114,105,118,101,82,70,67,52,50,50,54], [105,110,100,101,120], [104,109,97,99,80,111,111,108,115,91,97,108,103,111,93], [[33,40,97,108,103,111,32,60,32,48,41], [33,40,97,108,103,111,32,62,61,32,51,41]]), _, vc_1_otp_deriveRFC4226_index_1_a⟩ :: -- VCENTRY 57.a
  ⟨(1, [111,116,112,46,100,101,114,105,118,101,82,70,67,52,50,50,54], [105,110,100,101,120], [109,111,100,49,48,91,100,105,103,105,116,115,93], [[33,40,100,105,103,105,116,115,32,60,32,49,41], [33,40,100,105,103,105,116,115,32,62,61,32,49,49,41]]), _, vc_1_otp_deriveRFC4226_index_2_a⟩ :: -- VCENTRY 58.a
  ⟨(1, [111,116,112,46,100,101,114,105,118,101,82,70,67,54,50,56,55], [115,108,105,99,101], [42,71,101,116,40,114,102,99,54,50,56,55,66,117,102,80,111,111,108,41,91,58,48,93], []), _, vc_1_otp_deriveRFC6287_slice_1_a⟩ :: -- VCENTRY 59.a
  ⟨(1, [111,116,112,46,102,111,114,109,97,116,68,101,99,105,109,97,108], [105,110,100,101,120], [42,115,115,97,46,77,97,107,101,83,108,105,99,101,91,105,93], [[40,105,32,62,61,32,48,41]]), _, vc_1_otp_formatDecimal_index_1_a⟩ :: -- VCENTRY 63.a
  ⟨(1, [111,116,112,46,108,111,110,103,68,105,103,105,116], [109,97,107,101,115,108,105,99,101], [109,97,107,101,40,100,105,103,105,116,115,41], []), _, vc_1_otp_longDigit_makeslice_1_b⟩ :: -- VCENTRY 65.b
  ⟨(1, [111,116,112,46,108,111,110,103,68,105,103,105,116], [105,110,100,101,120], [42,115,115,97,46,77,97,107,101,83,108,105,99,101,91,105,93], [[40,105,32,62,61,32,48,41]]), _, vc_1_otp_longDigit_index_1_a⟩ :: -- VCENTRY 66.a
  ⟨(1, [111,116,112,46,112,97,100,66,121,116,101,115], [115,108,105,99,101], [105,110,112,117,116,91,58,108,101,110,103,116,104,93], [[40,108,101,110,40,105,110,112,117,116,41,32,62,61,32,108,101,110,103,116,104,41]]), _, vc_1_otp_padBytes_slice_1_b⟩ :: -- VCENTRY 67.b
  ⟨(1, [111,116,112,46,112,97,100,66,121,116,101,115], [109,97,107,101,115,108,105,99,101], [109,97,107,101,40,108,101,110,103,116,104,41], [[33,40,108,101,110,40,105,110,112,117,116,41,32,62,61,32,108,101,110,103,116,104,41]]), _, vc_1_otp_padBytes_makeslice_1_a⟩ :: -- VCENTRY 68.a
  ⟨(1, [111,116,112,46,112,97,114,115,101,67,114,121,112,116,111,70,117,110,99,116,105,111,110], [105,110,100,101,120], [83,112,108,105,116,40,99,114,121,112,116,111,91,58,93,44,34,45,34,41,91,48,93], [[33,40,108,101,110,40,83,112,108,105,116,40,99,114,121,112,116,111,91,58,93,44,34,45,34,41,41,32,33,61,32,50,41]]), _, vc_1_otp_parseCryptoFunction_index_1_a⟩ :: -- VCENTRY 70.a
  ⟨(1, [111,116,112,46,112,97,114,115,101,67,114,121,112,116,111,70,117,110,99,116,105,111,110], [105,110,100,101,120], [83,112,108,105,116,40,99,114,121,112,116,111,91,58,93,44,34,45,34,41,91,49,93], [[33,40,108,101,110,40,83,112,108,105,116,40,99,114,121,112,116,111,91,58,93,44,34,45,34,41,41,32,33,61,32,50,41]]), _, vc_1_otp_parseCryptoFunction_index_2_a⟩ :: -- VCENTRY 71.a
  ⟨(1, [111,116,112,46,112,97,114,115,101,68,97,116,97,73,110,112,117,116,84,111,107,101,110,115], [105,110,100,101,120], [83,112,108,105,116,40,105,110,112,117,116,44,34,45,34,41,91,40,114,97,110,103,101,105,110,100,101,120,32,43,32,49,41,93], [[40,40,114,97,110,103,101,105,110,100,101,120,32,43,32,49,41,32,60,32,108,101,110,40,83,112,108,105,116,40,105,110,112,117,116,44,34,45,34,41,41,41]]), _, vc_1_otp_parseDataInputTokens_index_1_a⟩ :: -- VCENTRY 72.a
  ⟨(1, [111,116,112,46,112,97,114,115,101,68,97,116,97,73,110,112,117,116,84,111,107,101,110,115], [115,108,105,99,101], [84,111,85,112,112,101,114,40,42,83,112,108,105,116,40,105,110,112,117,116,44,34,45,34,41,91,40,114,97,110,103,101,105,110,100,101,120,32,43,32,49,41,93,41,91,50,58,93], [[33,40,84,111,85,112,112,101,114,40,42,83,112,108,105,116,40,105,110,112,117,116,44,34,45,34,41,91,40,114,97,110,103,101,105,110,100,101,120,32,43,32,49,41,93,41,32,61,61,32,34,67,34,41], [40,108,101,110,40,84,111,85,112,112,101,114,40,42,83,112,108,105,116,40,105,110,112,117,116,44,34,45,34,41,91,40,114,97,110,103,101,105,110,100,101,120,32,43,32,49,41,93,41,41,32,61,61,32,52,41]]), _, vc_1_otp_parseDataInputTokens_slice_1_a⟩ :: -- VCENTRY 73.a
  ⟨(1, [111,116,112,46,112,97,114,115,101,68,97,116,97,73,110,112,117,116,84,111,107,101,110,115], [115,108,105,99,101], [84,111,85,112,112,101,114,40,42,83,112,108,105,116,40,105,110,112,117,116,44,34,45,34,41,91,40,114,97,110,103,101,105,110,100,101,120,32,43,32,49,41,93,41,91,49,58,93], [[33,40,84,111,85,112,112,101,114,40,42,83,112,108,105,116,40,105,110,112,117,116,44,34,45,34,41,91,40,114,97,110,103,101,105,110,100,101,120,32,43,32,49,41,93,41,32,61,61,32,34,67,34,41], [40,108,101,110,40,84,111,85,112,112,101,114,40,42,83,112,108,105,116,40,105,110,112,117,116,44,34,45,34,41,91,40,114,97,110,103,101,105,110,100,101,120,32,43,32,49,41,93,41,41,32,33,61,32,49,41]]), _, vc_1_otp_parseDataInputTokens_slice_3_a⟩ :: -- VCENTRY 75.a
  ⟨(1, [111,116,112,46,112,97,114,115,101,82,97,119,83,117,105,116,101], [105,110,100,101,120], [114,97,119,91,105,93], [[40,105,32,60,32,108,101,110,40,114,97,119,41,41]]), _, vc_1_otp_parseRawSuite_index_1_a⟩ :: -- VCENTRY 76.a
  ⟨(1, [111,116,112,46,112,97,114,115,101,82,97,119,83,117,105,116,101], [105,110,100,101,120], [83,112,108,105,116,40,114,97,119,44,34,58,34,41,91,49,93], [[33,40,108,101,110,40,83,112,108,105,116,40,114,97,119,44,34,58,34,41,41,32,33,61,32,51,41]]), _, vc_1_otp_parseRawSuite_index_2_a⟩ :: -- VCENTRY 77.a
  ⟨(1, [111,116,112,46,112,97,114,115,101,82,97,119,83,117,105,116,101], [105,110,100,101,120], [83,112,108,105,116,40,114,97,119,44,34,58,34,41,91,50,93], [[33,40,108,101,110,40,83,112,108,105,116,40,114,97,119,44,34,58,34,41,41,32,33,61,32,51,41]]), _, vc_1_otp_parseRawSuite_index_3_a⟩ :: -- VCENTRY 78.a
  ⟨(1, [111,116,112,46,112,97,114,115,101,82,97,119,83,117,105,116,101], [105,110,100,101,120], [83,112,108,105,116,40,114,97,119,44,34,58,34,41,91,48,93], [[33,40,108,101,110,40,83,112,108,105,116,40,114,97,119,44,34,58,34,41,41,32,33,61,32,51,41]]), _, vc_1_otp_parseRawSuite_index_4_a⟩ :: -- VCENTRY 79.a
  ⟨(1, [111,116,112,46,112,97,114,115,101,82,97,119,83,117,105,116,101], [105,110,100,101,120], [83,112,108,105,116,40,114,97,119,44,34,58,34,41,91,48,93], [[33,40,108,101,110,40,83,112,108,105,116,40,114,97,119,44,34,58,34,41,41,32,33,61,32,51,41]]), _, vc_1_otp_parseRawSuite_index_5_a⟩ :: -- VCENTRY 80.a
  ⟨(1, [111,116,112,46,112,97,114,115,101,83,117,105,116,101,78,117,109,98,101,114], [105,110,100,101,120], [115,91,105,93], [[33,40,108,101,110,40,115,41,32,61,61,32,48,41], [33,40,108,101,110,40,115,41,32,62,32,51,41], [40,105,32,60,32,108,101,110,40,115,41,41]]), _, vc_1_otp_parseSuiteNumber_index_1_a⟩ :: -- VCENTRY 81.a
  ⟨(1, [111,116,112,46,112,97,114,115,101,83,117,105,116,101,78,117,109,98,101,114], [105,110,100,101,120], [115,91,105,93], [[33,40,108,101,110,40,115,41,32,61,61,32,48,41], [33,40,108,101,110,40,115,41,32,62,32,51,41], [40,105,32,60,32,108,101,110,40,115,41,41]]), _, vc_1_otp_parseSuiteNumber_index_2_a⟩ :: -- VCENTRY 82.a
  ⟨(1, [111,116,112,46,112,97,114,115,101,83,117,105,116,101,78,117,109,98,101,114], [105,110,100,101,120], [115,91,105,93], [[33,40,108,101,110,40,115,41,32,61,61,32,48,41], [33,40,108,101,110,40,115,41,32,62,32,51,41], [40,105,32,60,32,108,101,110,40,115,41,41]]), _, vc_1_otp_parseSuiteNumber_index_3_a⟩ :: -- VCENTRY 83.a
  ⟨(1, [111,116,112,46,112,97,114,115,101,84,105,109,101,71,114,97,110,117,108,97,114,105,116,121], [115,108,105,99,101], [103,91,58,40,108,101,110,40,103,41,32,45,32,49,41,93], [[33,40,108,101,110,40,103,41,32,60,32,50,41]]), _, vc_1_otp_parseTimeGranularity_slice_1_a⟩ :: -- VCENTRY 84.a
  ⟨(1, [111,116,112,46,112,97,114,115,101,84,105,109,101,71,114,97,110,117,108,97,114,105,116,121], [105,110,100,101,120], [103,91,40,108,101,110,40,103,41,32,45,32,49,41,93], [[33,40,108,101,110,40,103,41,32,60,32,50,41]]), _, vc_1_otp_parseTimeGranularity_index_1_a⟩ :: -- VCENTRY 85.a
  ⟨(1, [111,116,112,46,115,104,111,114,116,68,105,103,105,116], [105,110,100,101,120], [112,97,100,91,105,93], [[40,105,32,62,61,32,48,41]]), _, vc_1_otp_shortDigit_index_1_b⟩ :: -- VCENTRY 86.b
  ⟨(1, [111,116,112,46,115,104,111,114,116,68,105,103,105,116], [115,108,105,99,101], [112,97,100,91,58,100,105,103,105,116,115,93], []), _, vc_1_otp_shortDigit_slice_1_b⟩ :: -- VCENTRY 88.b
  ⟨(1, [111,116,112,46,116,114,117,110,99,97,116,101], [105,110,100,101,120], [115,117,109,91,40,108,101,110,40,115,117,109,41,32,45,32,49,41,93], []), _, vc_1_otp_truncate_index_1_b⟩ :: -- VCENTRY 89.b
  ⟨(1, [111,116,112,46,116,114,117,110,99,97,116,101], [105,110,100,101,120], [115,117,109,91,40,42,115,117,109,91,40,108,101,110,40,115,117,109,41,32,45,32,49,41,93,32,38,32,49,53,41,93], []), _, vc_1_otp_truncate_index_2_b⟩ :: -- VCENTRY 90.b
  ⟨(1, [111,116,112,46,116,114,117,110,99,97,116,101], [105,110,100,101,120], [115,117,109,91,40,40,42,115,117,109,91,40,108,101,110,40,115,117,109,41,32,45,32,49,41,93,32,38,32,49,53,41,32,43,32,49,41,93], []), _, vc_1_otp_truncate_index_3_b⟩ :: -- VCENTRY 91.b
  ⟨(1, [111,116,112,46,116,114,117,110,99,97,116,101], [105,110,100,101,120], [115,117,109,91,40,40,42,115,117,109,91,40,108,101,110,40,115,117,109,41,32,45,32,49,41,93,32,38,32,49,53,41,32,43,32,50,41,93], []), _, vc_1_otp_truncate_index_4_b⟩ :: -- VCENTRY 92.b
  ⟨(1, [111,116,112,46,116,114,117,110,99,97,116,101], [105,110,100,101,120], [115,117,109,91,40,40,42,115,117,109,91,40,108,101,110,40,115,117,109,41,32,45,32,49,41,93,32,38,32,49,53,41,32,43,32,51,41,93], []), _, vc_1_otp_truncate_index_5_b⟩ :: -- VCENTRY 93.b
  []

end OtpVerif.Gen.PanicVC
